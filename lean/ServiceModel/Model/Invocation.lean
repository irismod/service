import ServiceModel.Model.Binding
/-!
# Request contexts, requests, responses, fees (mirrors `keeper/invocation.go`,
`keeper/fees.go`, `keeper/state_change.go`, `handler.go` for the invocation messages)
-/
namespace SM

/-- insertion sort (structural recursion, so that closed instances of the model evaluate in the kernel);
    the lists sorted here are the pending requests of one batch and the contexts queued at one height -/
def insertBy {α : Type} (le : α → α → Bool) (a : α) : List α → List α
  | [] => [a]
  | b :: t => if le a b then a :: b :: t else b :: insertBy le a t

def isort {α : Type} (le : α → α → Bool) : List α → List α
  | [] => []
  | a :: t => insertBy le a (isort le t)

theorem insertBy_perm {α : Type} (le : α → α → Bool) (a : α) (l : List α) : (insertBy le a l).Perm (a :: l) := by
  induction l with
  | nil => exact List.Perm.refl _
  | cons b t ih =>
    unfold insertBy
    split
    · exact List.Perm.refl _
    · exact (List.Perm.cons b ih).trans (List.Perm.swap a b t)

theorem isort_perm {α : Type} (le : α → α → Bool) (l : List α) : (isort le l).Perm l := by
  induction l with
  | nil => exact List.Perm.refl _
  | cons a t ih => exact (insertBy_perm le a _).trans (List.Perm.cons a ih)

def sortReqIds (l : List ReqId) : List ReqId := isort (fun a b => a.le b) l
def sortCtxIds (l : List CtxId) : List CtxId := isort (fun a b => a.le b) l

theorem mem_sortReqIds (l : List ReqId) (r : ReqId) : r ∈ sortReqIds l ↔ r ∈ l := (isort_perm _ l).mem_iff

theorem nodup_sortReqIds (l : List ReqId) (h : l.Nodup) : (sortReqIds l).Nodup := (isort_perm _ l).nodup_iff.mpr h

theorem mem_sortCtxIds (l : List CtxId) (c : CtxId) : c ∈ sortCtxIds l ↔ c ∈ l := (isort_perm _ l).mem_iff

/-! ### queue primitives (each queue has an entry set and a per-context height pointer) -/
def addNewQ (s : State) (c : CtxId) (h : Int) : State :=
  { s with newQ := FSet.ins s.newQ (h, c), newH := Map.set s.newH c h }
def delNewQ (s : State) (c : CtxId) (h : Int) : State :=
  { s with newQ := FSet.rem s.newQ (h, c), newH := Map.del s.newH c }
def addExpQ (s : State) (c : CtxId) (h : Int) : State :=
  { s with expQ := FSet.ins s.expQ (h, c), expH := Map.set s.expH c h }
def delExpQ (s : State) (c : CtxId) (h : Int) : State :=
  { s with expQ := FSet.rem s.expQ (h, c), expH := Map.del s.expH c }

def setCtx (s : State) (c : CtxId) (x : Ctx) : State := { s with ctxs := Map.set s.ctxs c x }
def delCtx (s : State) (c : CtxId) : State := { s with ctxs := Map.del s.ctxs c }

def addActive (s : State) (svc : SvcName) (prov : Addr) (expH : Int) (r : ReqId) : State :=
  { s with activeB := FSet.ins s.activeB (svc, prov, expH, r), activeI := FSet.ins s.activeI r }
def delActive (s : State) (svc : SvcName) (prov : Addr) (expH : Int) (r : ReqId) : State :=
  { s with activeB := FSet.rem s.activeB (svc, prov, expH, r), activeI := FSet.rem s.activeI r }

/-! ### stateless validation of requests -/
/-- one rule of a validation that returns the first error: the rule passed, and so did the rest -/
theorem ite_some_eq_none {α : Type} {p : Prop} [Decidable p] {a : α} {o : Option α}
    (h : (if p then some a else o) = none) : ¬ p ∧ o = none := by
  split at h
  · cases h
  · exact ⟨‹_›, h⟩

/-- `ValidateRequest`: the first failing rule, as the error it returns -/
def validateRequest (svc : SvcName) (cap : Option Nat) (provs : List Addr) (timeout : Int)
    (rep : Bool) (freq : Nat) (total : Int) : Option Err :=
  if !validName svc then some .invalidServiceName
  else if cap = some 0 then some .invalidRequest
  else if provs.isEmpty ∨ provs.length > 10 then some .invalidRequest
  else if ¬ provs.Nodup then some .invalidProviders
  else if timeout ≤ 0 then some .invalidTimeout
  else if rep ∧ freq > 0 ∧ (freq : Int) < timeout then some .invalidRepeatedFreq
  else if rep ∧ (total < -1 ∨ total = 0) then some .invalidRepeatedTotal
  else none

/-- what a request that passes `ValidateRequest` satisfies (the rule on the fee cap and that on the total apart) -/
theorem validateRequest_none {svc : SvcName} {cap : Option Nat} {provs : List Addr} {timeout : Int} {rep : Bool}
    {freq : Nat} {total : Int} (h : validateRequest svc cap provs timeout rep freq total = none) :
    validName svc = true ∧ provs.isEmpty = false ∧ provs.length ≤ 10 ∧ provs.Nodup ∧
      1 ≤ timeout ∧ (rep = true → freq = 0 ∨ timeout ≤ (freq : Int)) := by
  unfold validateRequest at h
  obtain ⟨hn, h⟩ := ite_some_eq_none h
  obtain ⟨-, h⟩ := ite_some_eq_none h
  obtain ⟨hp, h⟩ := ite_some_eq_none h
  obtain ⟨hd, h⟩ := ite_some_eq_none h
  obtain ⟨h1, h⟩ := ite_some_eq_none h
  obtain ⟨h2, -⟩ := ite_some_eq_none h
  refine ⟨by simpa using hn, by simpa using fun he => hp (.inl he), by omega, Decidable.not_not.mp hd, by omega,
    fun hr => ?_⟩
  by_cases hf : freq = 0
  · exact .inl hf
  · exact .inr (Int.not_lt.mp fun hlt => h2 ⟨hr, by omega, hlt⟩)

def callVB (svc : SvcName) (provs : List Addr) (cons : Addr) (cap : Option Nat) (timeout : Int)
    (rep : Bool) (freq : Nat) (total : Int) : Bool :=
  cons ≠ "" && (validateRequest svc cap provs timeout rep freq total).isNone

/-- `ValidateRequestContextUpdating` -/
def validateCtxUpdate (provs : List Addr) (cap : Option Nat) (timeout : Int) (freq : Nat) (total : Int) : Option Err :=
  if provs.length > 10 then some .invalidProviders
  else if ¬ provs.Nodup then some .invalidProviders
  else if cap = some 0 then some .invalidRequest
  else if timeout < 0 then some .invalidTimeout
  else if timeout ≠ 0 ∧ freq ≠ 0 ∧ (freq : Int) < timeout then some .invalidRepeatedFreq
  else if total < -1 then some .invalidRepeatedFreq
  else none

/-- the stateless validity of a stored context (`RequestContext.Validate`): service name, providers, consumer, fee cap -/
def ctxFieldsOK (x : Ctx) : Bool :=
  validName x.svc && !x.provs.isEmpty && decide (x.provs.length ≤ 10) && x.provs.Nodup && x.cons ≠ "" && decide (0 < x.cap)

/-! ### creating a context (`CreateRequestContext`) -/
/-- the checks made only for module-owned contexts: callbacks registered, `ValidateRequest`, threshold -/
def createPre (s : State) (mod : ModName) (svc : SvcName) (provs : List Addr) (cap : Option Nat) (timeout : Int)
    (rep : Bool) (freq : Nat) (total : Int) (thr : Nat) : Option Err :=
  if mod ≠ "" then
    if mod ∉ s.cfg.modules then some .callbackNotRegistered
    else match validateRequest svc cap provs timeout rep freq total with
      | some e => some e
      | none => if thr < 1 ∨ thr > provs.length then some .invalidResponseThreshold else none
  else none

theorem createPre_none {s : State} {mod : ModName} {svc : SvcName} {provs : List Addr} {cap : Option Nat} {timeout : Int}
    {rep : Bool} {freq : Nat} {total : Int} {thr : Nat}
    (h : createPre s mod svc provs cap timeout rep freq total thr = none) (hm : mod ≠ "") :
    validateRequest svc cap provs timeout rep freq total = none := by
  unfold createPre at h
  rw [if_pos hm] at h
  split at h; · cases h
  split at h
  · cases h
  · assumption

/-- the context record as first stored -/
def newCtxRec (mod : ModName) (svc : SvcName) (provs : List Addr) (cons : Addr) (capv : Nat) (timeout : Int)
    (super rep : Bool) (freq : Nat) (total : Int) (running : Bool) (thr : Nat) : Ctx := {
  svc := svc, provs := provs, cons := cons, cap := capv, timeout := timeout,
  super := super, rep := rep,
  freq := if rep then (if freq = 0 then timeout.toNat else freq) else 0,
  total := if rep then total else 0,
  batch := 0, reqN := 0, respN := 0,
  bthr := thr, bstate := .completed, state := if running then .running else .paused,
  thr := thr, mod := mod }

def createCtx (s : State) (id : CtxId) (mod : ModName) (svc : SvcName) (provs : List Addr) (cons : Addr)
    (cap : Option Nat) (timeout : Int) (super rep : Bool) (freq : Nat) (total : Int)
    (inputOk : Bool) (running : Bool) (thr : Nat) : Out :=
  match createPre s mod svc provs cap timeout rep freq total thr with
  | some e => fail s e
  | none =>
    if (Map.get s.defs svc).isNone then fail s .unknownDefinition
    else if !inputOk then fail s .invalidRequestInput
    else match cap with
    | none => fail s .invalidDeposit
    | some capv =>
      if capv = 0 then fail s .invalidDeposit
      else if timeout > s.params.maxTimeout then fail s .invalidTimeout
      else
        let x := newCtxRec mod svc provs cons capv timeout super rep freq total running thr
        let s1 := { setCtx s id x with usedIds := id :: s.usedIds }
        (if running then addNewQ s1 id s.height else s1, .ok, [])

/-! ### slash (`Keeper.Slash`) -/
def storedPricing (s : State) (svc : SvcName) (prov : Addr) : Pricing :=
  match Map.get s.pricing (svc, prov) with
  | some p => p
  | none => { base := 0, promT := [], promV := [] }

theorem storedPricing_of_get {s : State} {svc : SvcName} {p : Addr} {pr : Pricing}
    (h : Map.get s.pricing (svc, p) = some pr) : storedPricing s svc p = pr := by
  simp [storedPricing, h]

inductive SlashRes
  | done (s : State) (effs : List Effect)
  | bankErr
  | overflow

/-- slash the binding `(svc, prov)` on behalf of request `r` -/
def slash (s : State) (r : ReqId) (svc : SvcName) (prov : Addr) : SlashRes :=
  match Map.get s.bindings (svc, prov) with
  | none => .done s [.slash r prov 0]          -- unreachable: requests only go to bound providers
  | some b =>
    let amt := b.deposit * s.params.slash / decUnit
    if amt > b.deposit then .bankErr
    else match bankBurn s.bank s.cfg.deposit amt with
    | none => .bankErr
    | some bank' =>
      let b1 := { b with deposit := b.deposit - amt }
      if b1.avail then
        match minDeposit s.params (storedPricing s svc prov) with
        | none => .overflow
        | some md =>
          let b2 := if b1.deposit < md then { b1 with avail := false, disabledAt := s.time } else b1
          .done { s with bank := bank', bindings := Map.set s.bindings (svc, prov) b2 } [.slash r prov amt]
      else
        .done { s with bank := bank', bindings := Map.set s.bindings (svc, prov) b1 } [.slash r prov amt]

/-! ### earnings (`AddEarnedFee`) -/
def addTo (m : Map Addr Nat) (a : Addr) (n : Nat) : Map Addr Nat :=
  if n = 0 then m else Map.set m a (balOf m a + n)

theorem isSome_addTo {m : Map Addr Nat} {k k2 : Addr} {e : Nat} (h : (Map.get (addTo m k e) k2).isSome) :
    k = k2 ∨ (Map.get m k2).isSome := by
  unfold addTo at h
  split at h
  · exact .inr h
  · rw [Map.get_set] at h
    split at h
    · exact .inl ‹_›
    · exact .inr h

theorem balOf_addTo (m : Map Addr Nat) (k k2 : Addr) (e : Nat) :
    balOf (addTo m k e) k2 = balOf m k2 + if k = k2 then e else 0 := by
  unfold addTo
  split
  · subst e; simp
  · rw [balOf_set]
    split
    · subst k2; rfl
    · rfl

theorem total_addTo (m : Map Addr Nat) (k : Addr) (e : Nat) :
    Map.total (fun n : Nat => n) (addTo m k e) = Map.total (fun n : Nat => n) m + e := by
  unfold addTo
  split
  · subst e; rfl
  · have := Map.total_set (fun n : Nat => n) m k (balOf m k + e)
    rw [← balOf_eq_valAt] at this
    omega

theorem nodupKeys_addTo (m : Map Addr Nat) (k : Addr) (e : Nat) (h : Map.NodupKeys m) : Map.NodupKeys (addTo m k e) := by
  unfold addTo; split
  · exact h
  · exact Map.nodupKeys_set _ _ _ h

/-- tax to the collector, the rest to the provider's and its owner's earnings; `none` = bank refused -/
def addEarned (s : State) (prov : Addr) (fee : Nat) : Option (State × List Effect) :=
  let tax := fee * s.params.tax / decUnit
  match bankSend s.bank s.cfg.escrow s.cfg.collector tax with
  | none => none
  | some bank' =>
    if tax > fee then none
    else
      let e := fee - tax
      let o := (Map.get s.owner prov).getD ""
      some ({ s with bank := bank', earned := addTo s.earned prov e, ownerEarned := addTo s.ownerEarned o e },
            if tax = 0 then [] else [.transfer s.cfg.escrow s.cfg.collector tax])

/-! ### completing a batch (`CompleteBatch`, `Callback`, `GetResponseOutputs`) -/
def batchOutputs (s : State) (c : CtxId) (batch : Nat) : List OutKind :=
  let ids := sortReqIds ((s.resps.filter (fun p => p.1.ctx = c ∧ p.1.batch = batch)).map (·.1))
  (ids.filterMap (fun r => (Map.get s.resps r).map (·.out))).filter (· ≠ .absent)

/-- returns the context with its batch marked completed and the effects (callback for module contexts).
    The callback reads the *stored* context (`stored`), as `Keeper.Callback` does. -/
def completeBatch (s : State) (c : CtxId) (x : Ctx) : Ctx × List Effect :=
  let x' := { x with bstate := .completed }
  let cb : List Effect :=
    if x.mod ≠ "" then
      match Map.get s.ctxs c with
      | some st =>
        let outs := batchOutputs s c st.batch
        [.respcb c outs (decide (outs.length < st.bthr))]
      | none => [.respcb c [] false]
    else []
  (x', cb ++ [.ev "complete_batch" c])

/-! ### respond (`AddResponse`) -/
def respondVB (prov : Addr) (code : Nat) (out : OutKind) : Bool :=
  prov ≠ "" && (code = 200 || code = 400 || code = 500) &&
  (if code = 200 then out ≠ .absent else out = .absent)

/-- settlement of an accepted response: malformed output → slash and full refund (a failure of
    either panics, as in `AddResponse`); otherwise tax and earnings -/
def settle (s : State) (r : ReqId) (svc : SvcName) (cons : Addr) (q : Req) (prov : Addr) (out : OutKind) :
    Except Res (State × List Effect) :=
  if out = .malformed then
    match slash s r svc q.prov with
    | .bankErr => .error (.panic "slash failed")
    | .overflow => .error (.panic "Int overflow")
    | .done s1 e1 =>
      match bankSend s1.bank s1.cfg.escrow cons q.fee with
      | none => .error (.panic "refund failed")
      | some bank' => .ok ({ s1 with bank := bank' },
          e1 ++ (if q.fee = 0 then [] else [.transfer s1.cfg.escrow cons q.fee]))
  else
    match addEarned s prov q.fee with
    | none => .error (.err .insufficientFunds)
    | some r => .ok r

def respond (s : State) (r : ReqId) (prov : Addr) (code : Nat) (out : OutKind) : Out :=
  match Map.get s.reqs r with
  | none => fail s .unknownRequest
  | some q =>
    match Map.get s.ctxs r.ctx with
    | none => fail s .unknownRequest
    | some x0 =>
      if prov ≠ q.prov then fail s .invalidResponse
      else if r ∉ s.activeI then fail s .invalidResponse
      else
        match settle s r x0.svc x0.cons q prov out with
        | .error res => (s, res, [])
        | .ok (s1, e1) =>
          let s2 := { s1 with resps := Map.set s1.resps r { prov := prov, cons := x0.cons, code := code, out := out } }
          let s3 := delActive s2 x0.svc prov q.expH r
          let vk := (x0.cons, x0.svc, prov)
          let s4 := { s3 with volume := Map.set s3.volume vk ((Map.get s3.volume vk).getD 0 + 1) }
          -- (the keeper re-reads the context here; nothing above writes contexts)
          let x1 := { x0 with respN := x0.respN + 1 }
          if x1.respN = x1.reqN then
            let (x2, e2) := completeBatch s4 r.ctx x1
            (setCtx s4 r.ctx x2, .ok, e1 ++ e2)
          else (setCtx s4 r.ctx x1, .ok, e1)

/-! ### lifecycle (`CheckAuthority`, `Pause/Start/Kill/UpdateRequestContext`) -/
def ctxMsgVB (cons : Addr) : Bool := cons ≠ ""

/-- `CheckAuthority` -/
def checkAuthority (s : State) (c : CtxId) (cons : Addr) (checkModule : Bool) : Option Err :=
  match Map.get s.ctxs c with
  | none => some .unknownRequestContext
  | some x =>
    if cons ≠ x.cons then some .notAuthorized
    else if checkModule ∧ x.mod ≠ "" then some .notAuthorized
    else none

/-- the keeper functions re-check the consumer for module-owned contexts -/
def keeperAuth (s : State) (c : CtxId) (x : Ctx) (cons : Addr) : Option Err :=
  if x.mod ≠ "" then checkAuthority s c cons false else none

def pauseK (s : State) (c : CtxId) (cons : Addr) : Out :=
  match Map.get s.ctxs c with
  | none => fail s .unknownRequestContext
  | some x =>
    match keeperAuth s c x cons with
    | some e => fail s e
    | none =>
      if !x.rep then fail s .requestContextNonRepeated
      else if x.state ≠ .running then fail s .requestContextNotRunning
      else (setCtx s c { x with state := .paused }, .ok, [])

def startK (s : State) (c : CtxId) (cons : Addr) : Out :=
  match Map.get s.ctxs c with
  | none => fail s .unknownRequestContext
  | some x =>
    match keeperAuth s c x cons with
    | some e => fail s e
    | none =>
      if x.state ≠ .paused then fail s .requestContextNotPaused
      else
        let s1 := setCtx s c { x with state := .running }
        let s2 := if (Map.get s1.expH c).isNone ∧ (Map.get s1.newH c).isNone then addNewQ s1 c s.height else s1
        (s2, .ok, [])

def killK (s : State) (c : CtxId) (cons : Addr) : Out :=
  match Map.get s.ctxs c with
  | none => fail s .unknownRequestContext
  | some x =>
    match keeperAuth s c x cons with
    | some e => fail s e
    | none =>
      if !x.rep then fail s .requestContextNonRepeated
      else (setCtx s c { x with state := .completed }, .ok, [])

/-- the module-owned part of `UpdateRequestContext`: re-validation and the response threshold -/
def updThr (x : Ctx) (provs : List Addr) (thr : Nat) (cap : Option Nat) (timeout : Int) (freq : Nat) (total : Int) :
    Except Err Ctx :=
  if x.mod ≠ "" then
    match validateCtxUpdate provs cap timeout freq total with
    | some e => .error e
    | none =>
      let thr' := if thr = 0 then x.thr else thr
      let provs' := if provs.isEmpty then x.provs else provs
      if thr' > provs'.length then .error .invalidResponseThreshold
      else .ok (if thr' > 0 then { x with thr := thr' } else x)
  else .ok x

theorem updThr_eq {x x1 : Ctx} {provs : List Addr} {thr : Nat} {cap : Option Nat} {timeout : Int} {freq : Nat}
    {total : Int} (h : updThr x provs thr cap timeout freq total = .ok x1) : ∃ t, x1 = { x with thr := t } := by
  unfold updThr at h
  split at h
  · split at h
    · cases h
    · dsimp only at h
      generalize (if thr = 0 then x.thr else thr) = t, (if provs.isEmpty then x.provs else provs) = ps at h
      split at h
      · cases h
      · cases h; split
        · exact ⟨t, rfl⟩
        · exact ⟨x.thr, rfl⟩
  · cases h; exact ⟨x.thr, rfl⟩

/-- the field updates of `UpdateRequestContext` once every check has passed -/
def updFields (x1 : Ctx) (provs : List Addr) (cap : Option Nat) (timeout' : Int) (freq' : Nat) (total : Int) : Ctx :=
  { x1 with
    cap := match cap with | some n => n | none => x1.cap
    provs := if provs.isEmpty then x1.provs else provs
    timeout := if timeout' > 0 then timeout' else x1.timeout
    freq := if freq' > 0 then freq' else x1.freq
    total := if total ≠ 0 then total else x1.total }

def effTimeout (x : Ctx) (timeout : Int) : Int := if timeout = 0 then x.timeout else timeout
def effFreq (x : Ctx) (freq : Nat) : Nat := if freq = 0 then x.freq else freq

def updateK (s : State) (c : CtxId) (cons : Addr) (provs : List Addr) (thr : Nat) (cap : Option Nat)
    (timeout : Int) (freq : Nat) (total : Int) : Out :=
  match Map.get s.ctxs c with
  | none => fail s .unknownRequestContext
  | some x =>
    match keeperAuth s c x cons with
    | some e => fail s e
    | none =>
      if x.state = .completed then fail s .requestContextCompleted
      else
        match updThr x provs thr cap timeout freq total with
        | .error e => fail s e
        | .ok x1 =>
          if cap = some 0 then fail s .invalidDeposit      -- `validateServiceFeeCap`: a zero-amount coin is not a valid cap
          else if timeout > s.params.maxTimeout then fail s .invalidTimeout
          else
            if effTimeout x timeout < 0 ∨ (effFreq x freq : Int) < effTimeout x timeout then
              fail s .invalidRepeatedFreq   -- `freq < uint64(timeout)`
            else if total ≥ 1 ∧ total < (x.batch : Int) then fail s .invalidRepeatedTotal
            else (setCtx s c (updFields x1 provs cap (effTimeout x timeout) (effFreq x freq) total), .ok, [])

def updatectxVB (cons : Addr) (provs : List Addr) (cap : Option Nat) (timeout : Int) (freq : Nat) (total : Int) : Bool :=
  cons ≠ "" && (validateCtxUpdate provs cap timeout freq total).isNone

/-- the message handlers: `CheckAuthority(…, true)` first, then the keeper function -/
def ctxMsg (s : State) (c : CtxId) (cons : Addr) (k : State → Out) : Out :=
  match checkAuthority s c cons true with
  | some e => fail s e
  | none => k s

/-! ### withdraw (`WithdrawEarnedFees`) -/
def withdrawVB (owner : Addr) : Bool := owner ≠ ""

def providersOf (s : State) (owner : Addr) : List Addr :=
  (s.ownerProv.filter (fun p => p.1 = owner)).map (·.2)

/-- the earnings records after a withdrawal and the amount to pay (before any coin moves) -/
def withdrawRecords (s : State) (owner prov : Addr) : Except Res (State × Nat) :=
  if prov ≠ "" then
    if balOf s.earned prov = balOf s.ownerEarned owner then
      .ok ({ s with earned := Map.del s.earned prov, ownerEarned := Map.del s.ownerEarned owner }, balOf s.earned prov)
    else if balOf s.ownerEarned owner < balOf s.earned prov then .error (.panic "negative coin amount")
    else .ok ({ s with earned := Map.del s.earned prov,
                       ownerEarned := Map.set s.ownerEarned owner (balOf s.ownerEarned owner - balOf s.earned prov) },
              balOf s.earned prov)
  else
    .ok ({ s with earned := (providersOf s owner).foldl (fun m p => Map.del m p) s.earned,
                  ownerEarned := Map.del s.ownerEarned owner }, balOf s.ownerEarned owner)

def withdraw (s : State) (owner prov : Addr) : Out :=
  if prov ≠ "" ∧ Map.get s.owner prov ≠ some owner then fail s .notAuthorized
  else
    match withdrawRecords s owner prov with
    | .error r => (s, r, [])
    | .ok (s1, amt) =>
      if (Map.get s.withdraw owner).getD owner = s.cfg.escrow ∨ (Map.get s.withdraw owner).getD owner = s.cfg.deposit then
        fail s .unauthorized
      else match bankSend s1.bank s.cfg.escrow ((Map.get s.withdraw owner).getD owner) amt with
      | none => fail s .insufficientFunds
      | some bank' => ({ s1 with bank := bank' }, .ok,
          if amt = 0 then [] else [.transfer s.cfg.escrow ((Map.get s.withdraw owner).getD owner) amt])

end SM
