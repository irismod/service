import ServiceModel.Model.Types
/-!
# The bank keeper as the module sees it (modelled, not verified): a balance map of one
denomination; a send fails exactly when the sender's balance is insufficient; a burn
lowers the module account's balance and the supply.
-/
namespace SM

def balOf (b : Map Addr Nat) (a : Addr) : Nat := (Map.get b a).getD 0

def State.bal (s : State) (a : Addr) : Nat := balOf s.bank.bal a

/-- move `amt` from `src` to `dst`; `none` = insufficient funds -/
def bankSend (b : Bank) (src dst : Addr) (amt : Nat) : Option Bank :=
  if balOf b.bal src < amt then none
  else
    let m1 := Map.set b.bal src (balOf b.bal src - amt)
    let m2 := Map.set m1 dst (balOf m1 dst + amt)
    some { b with bal := m2 }

def bankMint (b : Bank) (dst : Addr) (amt : Nat) : Bank :=
  { bal := Map.set b.bal dst (balOf b.bal dst + amt), supply := b.supply + amt }

/-- burn from a module account; `none` = insufficient funds -/
def bankBurn (b : Bank) (acct : Addr) (amt : Nat) : Option Bank :=
  if balOf b.bal acct < amt then none
  else some { bal := Map.set b.bal acct (balOf b.bal acct - amt), supply := b.supply - amt }

theorem balOf_eq_valAt (m : Map Addr Nat) (k : Addr) : balOf m k = Map.valAt (fun n : Nat => n) m k := by
  unfold balOf Map.valAt; cases Map.get m k <;> rfl

theorem balOf_set (m : Map Addr Nat) (a x : Addr) (n : Nat) :
    balOf (Map.set m a n) x = if a = x then n else balOf m x := by
  unfold balOf; rw [Map.get_set]; split <;> simp

theorem balOf_del (m : Map Addr Nat) (a x : Addr) : balOf (Map.del m a) x = if a = x then 0 else balOf m x := by
  unfold balOf
  rw [Map.get_del]
  split <;> rfl

theorem bankSend_bal {b b' : Bank} {src dst : Addr} {amt : Nat} (h : bankSend b src dst amt = some b') (x : Addr) :
    balOf b'.bal x =
      if src = dst then balOf b.bal x
      else if x = src then balOf b.bal x - amt
      else if x = dst then balOf b.bal x + amt
      else balOf b.bal x := by
  unfold bankSend at h
  split at h
  · cases h
  cases h
  simp only [balOf_set]
  by_cases hsd : src = dst
  · subst hsd
    simp only [if_true]
    split
    · subst x; omega
    · rfl
  · simp only [if_neg hsd]
    by_cases h1 : x = src
    · subst h1; rw [if_neg (Ne.symm hsd), if_pos rfl, if_pos rfl]
    · by_cases h2 : x = dst
      · subst h2; rw [if_pos rfl, if_neg h1, if_pos rfl]
      · rw [if_neg (Ne.symm h2), if_neg (Ne.symm h1), if_neg h1, if_neg h2]

theorem bankSend_supply {b b' : Bank} {src dst : Addr} {amt : Nat} (h : bankSend b src dst amt = some b') :
    b'.supply = b.supply := by
  unfold bankSend at h; split at h <;> simp at h; subst h; rfl

theorem bankSend_some_iff (b : Bank) (src dst : Addr) (amt : Nat) :
    (bankSend b src dst amt).isSome ↔ amt ≤ balOf b.bal src := by
  unfold bankSend; split <;> simp <;> omega

theorem bankSend_of_le {b : Bank} {src : Addr} {amt : Nat} (dst : Addr) (h : amt ≤ balOf b.bal src) :
    ∃ b', bankSend b src dst amt = some b' :=
  Option.isSome_iff_exists.mp ((bankSend_some_iff b src dst amt).mpr h)

theorem bankSend_le {b b' : Bank} {src dst : Addr} {amt : Nat} (h : bankSend b src dst amt = some b') :
    amt ≤ balOf b.bal src :=
  (bankSend_some_iff b src dst amt).mp (by rw [h]; rfl)

theorem bankSend_dst {b b' : Bank} {src dst : Addr} {amt : Nat} (h : bankSend b src dst amt = some b')
    (hne : src ≠ dst) : balOf b'.bal dst = balOf b.bal dst + amt := by
  rw [bankSend_bal h dst]; simp [hne]; intro e; exact absurd e.symm hne

theorem bankSend_src {b b' : Bank} {src dst : Addr} {amt : Nat} (h : bankSend b src dst amt = some b')
    (hne : src ≠ dst) : balOf b'.bal src = balOf b.bal src - amt := by
  rw [bankSend_bal h src]; simp [hne]

theorem bankBurn_bal {b b' : Bank} {a : Addr} {amt : Nat} (h : bankBurn b a amt = some b') (x : Addr) :
    balOf b'.bal x = if x = a then balOf b.bal x - amt else balOf b.bal x := by
  unfold bankBurn at h; split at h
  · simp at h
  · simp at h; subst h; simp only [balOf_set]
    by_cases hx : a = x
    · subst hx; simp
    · have : ¬ x = a := fun e => hx e.symm
      simp [hx, this]

theorem bankBurn_le {b b' : Bank} {a : Addr} {amt : Nat} (h : bankBurn b a amt = some b') :
    amt ≤ balOf b.bal a := by
  unfold bankBurn at h; split at h
  · simp at h
  · omega

theorem bankBurn_supply {b b' : Bank} {a : Addr} {amt : Nat} (h : bankBurn b a amt = some b') :
    b'.supply = b.supply - amt := by
  unfold bankBurn at h; split at h <;> simp at h; subst h; rfl

theorem bankMint_bal (b : Bank) (a : Addr) (amt : Nat) (x : Addr) :
    balOf (bankMint b a amt).bal x = if x = a then balOf b.bal x + amt else balOf b.bal x := by
  unfold bankMint; simp only [balOf_set]
  by_cases hx : a = x
  · subst hx; simp
  · have : ¬ x = a := fun e => hx e.symm
    simp [hx, this]

theorem send_keeps {b b' : Bank} {src dst x : Addr} {amt : Nat} (h : bankSend b src dst amt = some b')
    (h1 : x ≠ src) (h2 : x ≠ dst) : balOf b'.bal x = balOf b.bal x := by
  rw [bankSend_bal h x]; simp [h1, h2]

theorem bankSend_mono {b b' : Bank} {src dst a : Addr} {amt : Nat} (h : bankSend b src dst amt = some b') (ha : a ≠ src) :
    balOf b.bal a ≤ balOf b'.bal a := by
  rw [bankSend_bal h a, if_neg ha]
  split
  · exact Nat.le_refl _
  · split
    · exact Nat.le_add_right _ _
    · exact Nat.le_refl _

theorem send_src {b b' : Bank} {src dst : Addr} {amt : Nat} (h : bankSend b src dst amt = some b') (hne : src ≠ dst) :
    balOf b'.bal src + amt = balOf b.bal src := by
  have := bankSend_src h hne
  have := bankSend_le h
  omega

theorem dep_send_keeps {s : State} {o : Addr} {dep : Option Nat} {bank' : Bank} {x : Addr}
    (hsend : (if dep.isSome = true then bankSend s.bank o s.cfg.deposit (dep.getD 0) else some s.bank) = some bank')
    (h1 : x ≠ o) (h2 : x ≠ s.cfg.deposit) : balOf bank'.bal x = balOf s.bank.bal x := by
  cases dep with
  | none => simp at hsend; subst hsend; rfl
  | some d => simp at hsend; exact send_keeps hsend h1 h2

theorem dep_send_bal {s : State} {o : Addr} {dep : Option Nat} {bank' : Bank}
    (hsend : (if dep.isSome = true then bankSend s.bank o s.cfg.deposit (dep.getD 0) else some s.bank) = some bank')
    (hne : o ≠ s.cfg.deposit) :
    balOf bank'.bal s.cfg.deposit = balOf s.bank.bal s.cfg.deposit + dep.getD 0 := by
  cases dep with
  | none => simp at hsend; subst hsend; simp
  | some d => simp at hsend; simpa using bankSend_dst hsend hne

end SM
