import ServiceModel.Keys.Layout
/-!
# A model of the `BechOK` hypothesis (core Lean only)

`hexish` writes every byte as two non-zero bytes (its nibbles plus one).  It is injective and
never produces `0x00`, so `BechOK` is satisfiable and the key theorems are not vacuous.  (The real
bech32 is `Keys/Bech32.lean`; its injectivity is the named hypothesis, sampled by the differential.)
-/
namespace SM.Keys

def hexish (x : Bytes) : Bytes :=
  x.flatMap (fun b => [UInt8.ofNat (b.toNat / 16 + 1), UInt8.ofNat (b.toNat % 16 + 1)])

theorem hexish_byte (b : UInt8) :
    (0 : UInt8) ≠ UInt8.ofNat (b.toNat / 16 + 1) ∧ (0 : UInt8) ≠ UInt8.ofNat (b.toNat % 16 + 1) ∧
    b.toNat = 16 * ((UInt8.ofNat (b.toNat / 16 + 1)).toNat - 1) + ((UInt8.ofNat (b.toNat % 16 + 1)).toNat - 1) := by
  have hb := b.toNat_lt
  have h1 : (UInt8.ofNat (b.toNat / 16 + 1)).toNat = b.toNat / 16 + 1 := by
    rw [UInt8.toNat_ofNat', Nat.mod_eq_of_lt (by omega)]
  have h2 : (UInt8.ofNat (b.toNat % 16 + 1)).toNat = b.toNat % 16 + 1 := by
    rw [UInt8.toNat_ofNat', Nat.mod_eq_of_lt (by omega)]
  refine ⟨fun h => ?_, fun h => ?_, by rw [h1, h2, Nat.add_sub_cancel, Nat.add_sub_cancel, Nat.div_add_mod]⟩
  · exact absurd (h1 ▸ congrArg UInt8.toNat h) (by simp)
  · exact absurd (h2 ▸ congrArg UInt8.toNat h) (by simp)

theorem hexish_cons (b : UInt8) (x : Bytes) :
    hexish (b :: x) = UInt8.ofNat (b.toNat / 16 + 1) :: UInt8.ofNat (b.toNat % 16 + 1) :: hexish x := by
  simp [hexish]

theorem hexish_inj : ∀ a b : Bytes, hexish a = hexish b → a = b
  | [], [], _ => rfl
  | [], _ :: _, h => by simp [hexish] at h
  | _ :: _, [], h => by simp [hexish] at h
  | c :: a, d :: b, h => by
    rw [hexish_cons, hexish_cons] at h
    simp only [List.cons.injEq] at h
    obtain ⟨h1, h2, h3⟩ := h
    have : c = d := UInt8.toNat_inj.mp (by rw [(hexish_byte c).2.2, (hexish_byte d).2.2, h1, h2])
    rw [this, hexish_inj a b h3]

theorem hexish_zfree : ∀ a : Bytes, (0 : UInt8) ∉ hexish a
  | [] => by simp [hexish]
  | c :: a => by
    rw [hexish_cons]
    simp only [List.mem_cons, not_or]
    exact ⟨(hexish_byte c).1, (hexish_byte c).2.1, hexish_zfree a⟩

theorem hexish_ok : BechOK hexish := ⟨hexish_inj, hexish_zfree⟩

end SM.Keys
