import ServiceModel.Keys.Proofs
import ServiceModel.Keys.Generated
import ServiceModel.Keys.Ids
/-!
# The well-formedness hypotheses and the table of prefix scans (hand-written; core Lean only)

`sh` states what is assumed of each field (the hypotheses of the key theorems).
`scanTable` names, for every prefix scan the module performs, the prefix function, the key
function whose records the scan is meant to enumerate, and whether the loop applies the
exact-remainder filter.  `sitesCovered` ties the table to the list of
`sdk.KVStorePrefixIterator` calls the translator found in `keeper/*.go`
(`Generated.scanSites`): a scan that appears, disappears, changes its prefix function or
loses its filter makes `sitesCovered` false and the property theorems fail to check.
-/
namespace SM.Keys
open Generated

/-- The hypotheses on the fields.
* service names match `^[a-zA-Z][a-zA-Z0-9_-]*$` (types/msgs.go `reServiceName`, ≤ 70 bytes): no `0x00`;
* denominations match `[a-zA-Z][a-zA-Z0-9/]{2,127}`: no `0x00`;
* owners and consumers sign messages, so they are account addresses of 20 bytes (assumption E1);
* request-context ids are 40 bytes, request ids 58 bytes, transaction hashes 32 bytes;
* providers are NOT signers of `MsgBindService`: any length. -/
def sh (f : Nat) : Shape :=
  if f = F.serviceName ∨ f = F.denom then .zfree
  else if f = F.owner ∨ f = F.consumer then .fixed 20
  else if f = F.requestContextID ∨ f = F.contextID then .fixed 40
  else if f = F.requestID then .fixed 58
  else if f = F.txHash then .fixed 32
  else .any

/-- the same without E1: owners and consumers of any length (for the negative results) -/
def shNoE1 (f : Nat) : Shape :=
  if f = F.owner ∨ f = F.consumer then .any else sh f

/-- `sh` strengthened: providers of 20 bytes too -/
def shProv20 (f : Nat) : Shape :=
  if f = F.provider then .fixed 20 else sh f

inductive ScanKind
  /-- the prefix is an initial part of the key layout; the subject is the fields of the prefix -/
  | fields
  /-- the prefix is `p ‖ context id ‖ batch counter`, the key is `p ‖ request id` -/
  | byCtx
deriving DecidableEq, Repr

structure Scan where
  sub : List Seg
  key : List Seg
  filtered : Bool := false
  kind : ScanKind := .fields
deriving DecidableEq, Repr

/-- every prefix scan the module performs (found by reading keeper/*.go; cross-checked against
    `Generated.scanSites` by `sitesCovered`) -/
def scanTable : List Scan := [
  -- keeper/binding.go
  { sub := GetOwnerBindingsSubspace, key := GetOwnerServiceBindingKey },   -- bindings of an owner for a service
  { sub := GetOwnerProvidersSubspace, key := GetOwnerProviderKey },        -- providers of an owner
  { sub := WithdrawAddrKey, key := GetWithdrawAddrKey },                   -- all withdraw addresses
  { sub := GetBindingsSubspace, key := GetServiceBindingKey },             -- bindings of a service
  { sub := ServiceBindingKey, key := GetServiceBindingKey },               -- all bindings
  -- keeper/definition.go
  { sub := ServiceDefinitionKey, key := GetServiceDefinitionKey },         -- all definitions
  -- keeper/fees.go
  { sub := GetEarnedFeesSubspace, key := GetEarnedFeesKey, filtered := true },  -- earnings of a provider
  { sub := GetOwnerEarnedFeesSubspace, key := GetOwnerEarnedFeesKey },     -- earnings of an owner
  { sub := EarnedFeesKey, key := GetEarnedFeesKey },                       -- all earnings
  -- keeper/invocation.go
  { sub := RequestContextKey, key := GetRequestContextKey },               -- all contexts
  { sub := RequestKey, key := GetRequestKey },                             -- all requests
  { sub := GetRequestSubspaceByReqCtx, key := GetRequestKey, kind := .byCtx },         -- requests of a batch
  { sub := GetExpiredRequestBatchSubspace, key := GetExpiredRequestBatchKey },         -- expiry queue at a height
  { sub := GetNewRequestBatchSubspace, key := GetNewRequestBatchKey },                 -- new-batch queue at a height
  { sub := GetActiveRequestSubspace, key := GetActiveRequestKey },                     -- active requests of a binding
  { sub := GetActiveRequestSubspaceByReqCtx, key := GetActiveRequestKeyByID, kind := .byCtx },  -- active markers of a batch
  { sub := ActiveRequestKey, key := GetActiveRequestKey },                 -- all active requests
  { sub := ResponseKey, key := GetResponseKey },                           -- all responses
  { sub := GetResponseSubspaceByReqCtx, key := GetResponseKey, kind := .byCtx }        -- responses of a batch
]

def byCtxOK (sub key : List Seg) : Bool :=
  match sub, key with
  | [.lit p, .raw c, .be 8 b], [.lit q, .raw r] =>
    p == q && c == F.requestContextID && b == F.batchCounter && r == F.requestID
  | _, _ => false

/-- the Boolean check of one scan under field shapes `s` -/
def Scan.ok (s : Nat → Shape) (x : Scan) : Bool :=
  match x.kind with
  | .fields => if x.filtered then scanFilteredOK s x.sub x.key else scanOK s x.sub x.key
  | .byCtx => !x.filtered && byCtxOK x.sub x.key

/-- every scan site of the Go code is an entry of the table (same prefix layout, same filter),
    every entry of the table is a scan site, and every entry's key is a key builder -/
def sitesCovered : Bool :=
  scanSites.all (fun site => scanTable.any (fun x => x.sub == site.sub && x.filtered == site.filtered)) &&
  scanTable.all (fun x => scanSites.any (fun site => x.sub == site.sub && x.filtered == site.filtered)) &&
  scanTable.all (fun x => keyBuilders.any (fun k => k.layout == x.key))

/-- the filter of the filtered scans compares the remainder with the denomination of the stored coin -/
def filterIsDenom : Bool :=
  scanTable.all (fun x => !x.filtered || x.key.drop x.sub.length == [.raw F.denom])

def headsDiffer (l₁ l₂ : List Seg) : Bool :=
  match headLit l₁, headLit l₂ with
  | some a, some b => a != b
  | _, _ => false

/-- the meaning of "the scan returns exactly the records of its subject" -/
def Scan.Exact (bech : Bytes → Bytes) (s : Nat → Shape) (x : Scan) : Prop :=
  match x.kind with
  | .fields =>
    if x.filtered then
      ∀ e₁ e₂, WFEnv s e₁ → WFEnv s e₂ →
        ((encode bech x.sub e₁ <+: encode bech x.key e₂ ∧
          (encode bech x.key e₂).drop (encode bech x.sub e₁).length = encode bech (x.key.drop x.sub.length) e₂)
          ↔ FieldsEq x.sub e₁ e₂)
    else
      ∀ e₁ e₂, WFEnv s e₁ → WFEnv s e₂ →
        (encode bech x.sub e₁ <+: encode bech x.key e₂ ↔ FieldsEq x.sub e₁ e₂)
  | .byCtx =>
    ∀ e₁ e₂, WFEnv s e₁ → WFEnv s e₂ →
      (encode bech x.sub e₁ <+: encode bech x.key e₂ ↔
        ∃ height index, splitReqId (e₂.b F.requestID) =
          some (e₁.b F.requestContextID, e₁.n F.batchCounter % 2 ^ 64, height, index))

theorem byCtx_exact (ctx rid : Bytes) (batch : Nat) (hc : ctx.length = 40) (hr : rid.length = 58) :
    ctx ++ beN 8 batch <+: rid ↔ ∃ height index, splitReqId rid = some (ctx, batch % 2 ^ 64, height, index) := by
  constructor
  · rintro ⟨t, rfl⟩
    exact ⟨_, _, by
      unfold splitReqId
      rw [if_pos hr, List.append_assoc, slice_left _ _ 40 hc, slice_mid _ _ _ 40 48 hc (by rw [beN_length]),
        fromBE_beN, pow256]⟩
  · rintro ⟨h, i, hs⟩
    have hb : beN 8 (batch % 2 ^ 64) = beN 8 batch := beN_mod 8 batch
    rw [← (splitReqId_eq_some_iff.mp hs).1, genReqId, ← List.append_assoc, hb]
    exact List.prefix_append _ _

theorem Scan.ok_sound {bech : Bytes → Bytes} (hb : BechOK bech) {s : Nat → Shape}
    (h40 : s F.requestContextID = .fixed 40) (h58 : s F.requestID = .fixed 58)
    (x : Scan) (hok : x.ok s = true) : x.Exact bech s := by
  obtain ⟨sub, key, filtered, kind⟩ := x
  cases kind
  · cases filtered
    · exact fun e₁ e₂ => scanOK_sound hb sub key hok e₁ e₂
    · exact fun e₁ e₂ => scanFilteredOK_sound hb sub key hok e₁ e₂
  · intro e₁ e₂ w₁ w₂
    simp only [Scan.ok, Bool.and_eq_true] at hok
    have hshape := hok.2
    unfold byCtxOK at hshape
    split at hshape
    · simp only [Bool.and_eq_true, beq_iff_eq] at hshape
      obtain ⟨⟨⟨rfl, rfl⟩, rfl⟩, rfl⟩ := hshape
      have hc := w₁ F.requestContextID
      have hr := w₂ F.requestID
      rw [h40] at hc
      rw [h58] at hr
      simp only [encode, Seg.val, List.cons_append, List.nil_append, List.append_nil, List.cons_prefix_cons, true_and]
      exact byCtx_exact _ _ _ hc hr
    · exact absurd hshape (by simp)

theorem headsDiffer_sound {bech : Bytes → Bytes} {l₁ l₂ : List Seg} (h : headsDiffer l₁ l₂ = true) (e₁ e₂ : Env) :
    ¬ encode bech l₁ e₁ <+: encode bech l₂ e₂ := by
  unfold headsDiffer at h
  split at h
  · rename_i a b h₁ h₂
    exact heads_disjoint h₁ h₂ (by simpa using h) e₁ e₂
  · exact absurd h (by simp)

theorem headsDiffer_pairwise {bech : Bytes → Bytes} {ls : List (List Seg)}
    (h : ls.Pairwise (fun l₁ l₂ => headsDiffer l₁ l₂ = true)) :
    ls.Pairwise (fun l₁ l₂ => ∀ e₁ e₂, encode bech l₁ e₁ ≠ encode bech l₂ e₂) :=
  h.imp fun h e₁ e₂ heq => headsDiffer_sound h e₁ e₂ ⟨[], by rw [List.append_nil, heq]⟩

end SM.Keys
