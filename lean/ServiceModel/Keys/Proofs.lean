import ServiceModel.Keys.BigEndian
/-!
# Soundness of the layout decision procedure (core Lean only)

`strict_sound`, `decodable_sound`: when the Boolean check accepts a layout, equal encodings
force equal pieces.  `scanOK_sound`, `scanFilteredOK_sound`: exactness of prefix scans.
-/
namespace SM.Keys

theorem sep_inj {α : Type} {z : α} : ∀ {x₁ x₂ y₁ y₂ : List α}, z ∉ x₁ → z ∉ x₂ →
    x₁ ++ z :: y₁ = x₂ ++ z :: y₂ → x₁ = x₂ ∧ y₁ = y₂
  | [], [], _, _, _, _, h => by simpa using h
  | [], c :: x₂, _, _, _, h2, h => by
      simp only [List.nil_append, List.cons_append, List.cons.injEq] at h
      exact absurd (h.1 ▸ List.mem_cons_self) h2
  | c :: x₁, [], _, _, h1, _, h => by
      simp only [List.nil_append, List.cons_append, List.cons.injEq] at h
      exact absurd (h.1 ▸ List.mem_cons_self) h1
  | c :: x₁, d :: x₂, _, _, h1, h2, h => by
      simp only [List.cons_append, List.cons.injEq] at h
      have := sep_inj (fun m => h1 (List.mem_cons_of_mem _ m)) (fun m => h2 (List.mem_cons_of_mem _ m)) h.2
      exact ⟨by rw [h.1, this.1], this.2⟩

theorem encode_append (bech : Bytes → Bytes) (l₁ l₂ : List Seg) (e : Env) :
    encode bech (l₁ ++ l₂) e = encode bech l₁ e ++ encode bech l₂ e := by
  induction l₁ with
  | nil => rfl
  | cons s r ih => simp [encode, ih]

theorem encode_congr (bech : Bytes → Bytes) (l : List Seg) (e₁ e₂ : Env)
    (h : Agree bech l e₁ e₂) : encode bech l e₁ = encode bech l e₂ := by
  induction l with
  | nil => rfl
  | cons s r ih =>
    simp only [encode]
    rw [h s List.mem_cons_self, ih (fun t ht => h t (List.mem_cons_of_mem _ ht))]

theorem val_shape {bech : Bytes → Bytes} (hb : BechOK bech) {sh : Nat → Shape} {e : Env}
    (wf : WFEnv sh e) (s : Seg) : (s.shape sh).ok (s.val bech e) := by
  cases s with
  | lit b => simp [Seg.shape, Seg.val, Shape.ok]
  | raw f => exact wf f
  | bech f => exact hb.zfree _
  | be w f => simp [Seg.shape, Seg.val, Shape.ok, beN_length]

theorem head_split {bech : Bytes → Bytes} (hb : BechOK bech) {sh : Nat → Shape} {e₁ e₂ : Env}
    (wf₁ : WFEnv sh e₁) (wf₂ : WFEnv sh e₂) (s : Seg) (r : List Seg) (t₁ t₂ : Bytes)
    (hok : headOK sh s r = true)
    (h : s.val bech e₁ ++ (encode bech r e₁ ++ t₁) = s.val bech e₂ ++ (encode bech r e₂ ++ t₂)) :
    s.val bech e₁ = s.val bech e₂ ∧ encode bech r e₁ ++ t₁ = encode bech r e₂ ++ t₂ := by
  have s1 := val_shape hb wf₁ s
  have s2 := val_shape hb wf₂ s
  unfold headOK at hok
  split at hok
  · rename_i n hs
    rw [hs] at s1 s2
    exact List.append_inj h (Eq.trans s1 (Eq.symm s2))
  · rename_i hs
    rw [hs] at s1 s2
    split at hok
    · rename_i b r'
      have hb0 : b = 0 := by simpa using hok
      subst hb0
      simp only [encode, Seg.val, List.cons_append, List.nil_append] at h ⊢
      have := sep_inj s1 s2 h
      exact ⟨this.1, by rw [this.2]⟩
    · exact absurd hok (by simp)
  · exact absurd hok (by simp)

theorem strict_sound {bech : Bytes → Bytes} (hb : BechOK bech) {sh : Nat → Shape} {e₁ e₂ : Env}
    (wf₁ : WFEnv sh e₁) (wf₂ : WFEnv sh e₂) :
    ∀ (l : List Seg) (t₁ t₂ : Bytes), strict sh l = true →
      encode bech l e₁ ++ t₁ = encode bech l e₂ ++ t₂ → Agree bech l e₁ e₂ ∧ t₁ = t₂
  | [], t₁, t₂, _, h => ⟨fun _ hs => absurd hs (by simp), by simpa [encode] using h⟩
  | s :: r, t₁, t₂, hst, h => by
    simp only [strict, Bool.and_eq_true] at hst
    simp only [encode, List.append_assoc] at h
    have hd := head_split hb wf₁ wf₂ s r t₁ t₂ hst.1 h
    have tl := strict_sound hb wf₁ wf₂ r t₁ t₂ hst.2 hd.2
    exact ⟨List.forall_mem_cons.mpr ⟨hd.1, tl.1⟩, tl.2⟩

theorem decodable_sound {bech : Bytes → Bytes} (hb : BechOK bech) {sh : Nat → Shape} {e₁ e₂ : Env}
    (wf₁ : WFEnv sh e₁) (wf₂ : WFEnv sh e₂) :
    ∀ (l : List Seg), decodable sh l = true →
      encode bech l e₁ = encode bech l e₂ → Agree bech l e₁ e₂
  | [], _, _ => fun _ hs => absurd hs (by simp)
  | [s], _, h => by simpa [Agree, encode] using h
  | s :: s' :: r, hd, h => by
    simp only [decodable, Bool.and_eq_true] at hd
    have hs := head_split hb wf₁ wf₂ s (s' :: r) [] [] hd.1 (by simpa [encode] using h)
    exact List.forall_mem_cons.mpr ⟨hs.1, decodable_sound hb wf₁ wf₂ (s' :: r) hd.2 (by simpa using hs.2)⟩

theorem agree_iff_fieldsEq {bech : Bytes → Bytes} (hb : BechOK bech) (l : List Seg) (e₁ e₂ : Env) :
    Agree bech l e₁ e₂ ↔ FieldsEq l e₁ e₂ := by
  constructor
  · intro h
    refine ⟨?_, ?_⟩
    · intro f hf
      rcases hf with hf | hf
      · exact h _ hf
      · exact hb.inj _ _ (h _ hf)
    · intro w f hf
      exact beN_inj.mp (h _ hf)
  · intro h s hs
    cases s with
    | lit b => rfl
    | raw f => exact h.1 f (Or.inl hs)
    | bech f => simp only [Seg.val]; rw [h.1 f (Or.inr hs)]
    | be w f => exact beN_inj.mpr (h.2 w f hs)

theorem key_injective {bech : Bytes → Bytes} (hb : BechOK bech) {sh : Nat → Shape} (l : List Seg)
    (hd : decodable sh l = true) (e₁ e₂ : Env) (wf₁ : WFEnv sh e₁) (wf₂ : WFEnv sh e₂) :
    encode bech l e₁ = encode bech l e₂ ↔ FieldsEq l e₁ e₂ := by
  rw [← agree_iff_fieldsEq hb]
  exact ⟨decodable_sound hb wf₁ wf₂ l hd, encode_congr bech l e₁ e₂⟩

theorem scanOK_sound {bech : Bytes → Bytes} (hb : BechOK bech) {sh : Nat → Shape} (sub key : List Seg)
    (hok : scanOK sh sub key = true) (e₁ e₂ : Env) (wf₁ : WFEnv sh e₁) (wf₂ : WFEnv sh e₂) :
    encode bech sub e₁ <+: encode bech key e₂ ↔ FieldsEq sub e₁ e₂ := by
  simp only [scanOK, Bool.and_eq_true] at hok
  obtain ⟨rest, rfl⟩ := List.prefix_iff_eq_take.mpr (eq_of_beq hok.1).symm
  rw [← agree_iff_fieldsEq hb, encode_append]
  constructor
  · rintro ⟨t, ht⟩
    exact (strict_sound hb wf₁ wf₂ sub t _ hok.2 ht).1
  · intro h
    rw [encode_congr bech sub e₁ e₂ h]
    exact List.prefix_append _ _

theorem scanFilteredOK_sound {bech : Bytes → Bytes} (hb : BechOK bech) {sh : Nat → Shape} (sub key : List Seg)
    (hok : scanFilteredOK sh sub key = true) (e₁ e₂ : Env) (wf₁ : WFEnv sh e₁) (wf₂ : WFEnv sh e₂) :
    (encode bech sub e₁ <+: encode bech key e₂ ∧
      (encode bech key e₂).drop (encode bech sub e₁).length = encode bech (key.drop sub.length) e₂)
      ↔ FieldsEq sub e₁ e₂ := by
  simp only [scanFilteredOK, Bool.and_eq_true] at hok
  obtain ⟨rest, rfl⟩ := List.prefix_iff_eq_take.mpr (eq_of_beq hok.1).symm
  rw [← agree_iff_fieldsEq hb, List.drop_left, encode_append]
  constructor
  · rintro ⟨⟨t, ht⟩, hdrop⟩
    -- the filter says that what follows the prefix is the record's own remainder
    rw [← ht, List.drop_left] at hdrop
    rw [hdrop] at ht
    exact decodable_sound hb wf₁ wf₂ sub hok.2 (List.append_cancel_right ht)
  · intro h
    rw [encode_congr bech sub e₁ e₂ h]
    exact ⟨List.prefix_append _ _, List.drop_left⟩

theorem encode_head {bech : Bytes → Bytes} {l : List Seg} {b : UInt8} (h : headLit l = some b) (e : Env) :
    ∃ t, encode bech l e = b :: t := by
  cases l with
  | nil => simp [headLit] at h
  | cons s r =>
    cases s <;> simp [headLit] at h
    subst h
    exact ⟨_, rfl⟩

theorem heads_disjoint {bech : Bytes → Bytes} {l₁ l₂ : List Seg} {b₁ b₂ : UInt8}
    (h₁ : headLit l₁ = some b₁) (h₂ : headLit l₂ = some b₂) (hne : b₁ ≠ b₂) (e₁ e₂ : Env) :
    ¬ encode bech l₁ e₁ <+: encode bech l₂ e₂ := by
  obtain ⟨t₁, ht₁⟩ := encode_head (bech := bech) h₁ e₁
  obtain ⟨t₂, ht₂⟩ := encode_head (bech := bech) h₂ e₂
  rw [ht₁, ht₂]
  rintro ⟨t, ht⟩
  simp only [List.cons_append, List.cons.injEq] at ht
  exact hne ht.1

theorem Shape.default_ok : ∀ s : Shape, s.ok s.default
  | .fixed n => by simp [Shape.ok, Shape.default]
  | .zfree => by simp [Shape.ok, Shape.default]
  | .any => trivial

theorem WFEnv_default (sh : Nat → Shape) : WFEnv sh (Env.default sh) := fun f => Shape.default_ok (sh f)

theorem WFEnv_setB {sh : Nat → Shape} {e : Env} (wf : WFEnv sh e) (f : Nat) (v : Bytes) (hv : (sh f).ok v) :
    WFEnv sh (e.setB f v) := by
  intro g
  simp only [Env.setB]
  split
  · rename_i h; rw [h]; exact hv
  · exact wf g

theorem WFEnv_set2 {sh : Nat → Shape} {f g : Nat} {v w : Bytes} (hv : (sh f).ok v) (hw : (sh g).ok w) :
    WFEnv sh (((Env.default sh).setB f v).setB g w) :=
  WFEnv_setB (WFEnv_setB (WFEnv_default sh) f v hv) g w hw

theorem WFEnv_setN {sh : Nat → Shape} {e : Env} (wf : WFEnv sh e) (f : Nat) (v : Nat) : WFEnv sh (e.setN f v) := wf

end SM.Keys
