import ServiceModel.Keys.BigEndian
import ServiceModel.Keys.IdDefs
/-!
# Request-context ids and request ids at byte level (core Lean only)

`genCtxId`, `splitCtxId`, `genReqId`, `splitReqId` are `types/invocation.go`
`GenerateRequestContextID`, `SplitRequestContextID`, `GenerateRequestID`, `SplitRequestID`
written by hand, including the Go integer conversions (`uint64(int64)`, `int64(uint64)`,
`uint16(int16)`, `int16(uint16)` are two's complement).  `C18.ids_match_source` ties them to
the layouts and slice specifications the translator extracted from the Go source (`splitBy` gives
the specifications their meaning), so that a change of the Go functions breaks that theorem.
The definitions are in `Keys/IdDefs.lean`, so that the executable `driver ids`, which the differential
test compares with the real functions, builds without this file.
-/
namespace SM.Keys

/-- what a `Split…` function returns: a byte string or an integer -/
inductive Val where
  | b (x : Bytes)
  | i (x : Int)
deriving DecidableEq, Repr

def Part.eval (id : Bytes) : Part → Val
  | .bytes a b => .b (sliceOf a b id)
  | .uint a b => .i (fromBE (sliceOf a b id))
  | .sint a b => .i (toSigned (b - a) (fromBE (sliceOf a b id)))

/-- meaning of a translated `Split…` function -/
def splitBy (s : SplitSpec) (id : Bytes) : Option (List Val) :=
  if id.length = s.len then some (s.parts.map (Part.eval id)) else none

theorem sliceOf_length {a b n : Nat} {l : Bytes} (hl : l.length = n) (h : b ≤ n) : (sliceOf a b l).length = b - a := by
  simp [sliceOf, hl, Nat.min_eq_left h]

theorem slice_all {n : Nat} {l : Bytes} (h : l.length ≤ n) : sliceOf 0 n l = l := by
  simp [sliceOf, List.take_of_length_le h]

theorem slice_append {a b c : Nat} (l : Bytes) (hab : a ≤ b) (hbc : b ≤ c) :
    sliceOf a b l ++ sliceOf b c l = sliceOf a c l := by
  simp only [sliceOf, List.drop_take]
  rw [← Nat.sub_add_sub_cancel hbc hab, Nat.add_comm, List.take_add, List.drop_drop, Nat.add_sub_cancel' hab]

theorem slice_left (x y : Bytes) (a : Nat) (h : x.length = a) : sliceOf 0 a (x ++ y) = x := by
  simp [sliceOf, ← h]

theorem slice_mid (x y z : Bytes) (a b : Nat) (h1 : x.length = a) (h2 : a + y.length = b) :
    sliceOf a b (x ++ (y ++ z)) = y := by
  subst h1 h2
  unfold sliceOf
  rw [← List.append_assoc, List.take_left' (by simp), List.drop_left]

theorem slice_last (x y : Bytes) (a b : Nat) (h1 : x.length = a) (h2 : a + y.length = b) :
    sliceOf a b (x ++ y) = y := by
  have := slice_mid x y [] a b h1 h2
  simpa using this

theorem toSigned_u64 (x : Int) (h1 : -2 ^ 63 ≤ x) (h2 : x < 2 ^ 63) : toSigned 8 (u64 x) = x := by
  unfold toSigned u64
  omega

theorem toSigned_u16 (x : Int) (h1 : -2 ^ 15 ≤ x) (h2 : x < 2 ^ 15) : toSigned 2 (u16 x) = x := by
  unfold toSigned u16
  omega

theorem u64_lt (x : Int) : u64 x < 2 ^ 64 := by unfold u64; omega
theorem u16_lt (x : Int) : u16 x < 2 ^ 16 := by unfold u16; omega

theorem toNat_emod_natCast (n : Nat) {m : Int} (h : (n : Int) < m) : ((n : Int) % m).toNat = n := by
  rw [Int.emod_eq_of_lt (Int.natCast_nonneg n) h, Int.toNat_natCast]

theorem u64_ofNat (n : Nat) (h : n < 2 ^ 63) : u64 (n : Int) = n := toNat_emod_natCast n (by omega)
theorem u16_ofNat (n : Nat) (h : n < 2 ^ 15) : u16 (n : Int) = n := toNat_emod_natCast n (by omega)

theorem u64_toSigned (n : Nat) (h : n < 2 ^ 64) : u64 (toSigned 8 n) = n := by
  unfold toSigned u64
  omega

theorem u16_toSigned (n : Nat) (h : n < 2 ^ 16) : u16 (toSigned 2 n) = n := by
  unfold toSigned u16
  omega

theorem toSigned8_range (n : Nat) (h : n < 2 ^ 64) : -2 ^ 63 ≤ toSigned 8 n ∧ toSigned 8 n < 2 ^ 63 := by
  unfold toSigned
  omega

theorem toSigned2_range (n : Nat) (h : n < 2 ^ 16) : -2 ^ 15 ≤ toSigned 2 n ∧ toSigned 2 n < 2 ^ 15 := by
  unfold toSigned
  omega

/-- `uint64(·)` is injective on int64 -/
theorem u64_inj (x y : Int) (hx1 : -2 ^ 63 ≤ x) (hx2 : x < 2 ^ 63) (hy1 : -2 ^ 63 ≤ y) (hy2 : y < 2 ^ 63)
    (h : u64 x = u64 y) : x = y := by
  rw [← toSigned_u64 x hx1 hx2, ← toSigned_u64 y hy1 hy2, h]

theorem genCtxId_length (hash : Bytes) (idx : Int) (h : hash.length = 32) : (genCtxId hash idx).length = 40 := by
  simp [genCtxId, beN_length, h]

theorem splitCtxId_eq_some_iff {id hash : Bytes} {idx : Int} :
    splitCtxId id = some (hash, idx) ↔ genCtxId hash idx = id ∧ hash.length = 32 ∧ -2 ^ 63 ≤ idx ∧ idx < 2 ^ 63 := by
  constructor
  · intro h
    simp only [splitCtxId, Option.ite_none_right_eq_some, Option.some.injEq, Prod.mk.injEq] at h
    obtain ⟨hl, rfl, rfl⟩ := h
    have hs : (sliceOf 32 40 id).length = 8 := sliceOf_length hl (by decide)
    have hlt := fromBE_lt_of_length hs
    refine ⟨?_, sliceOf_length hl (by decide), toSigned8_range _ hlt⟩
    rw [genCtxId, u64_toSigned _ hlt, beN_fromBE 8 _ hs, slice_append id (by decide) (by decide),
      slice_all (Nat.le_of_eq hl)]
  · rintro ⟨rfl, h, h1, h2⟩
    unfold splitCtxId
    rw [if_pos (genCtxId_length hash idx h)]
    unfold genCtxId
    rw [slice_left _ _ 32 h, slice_last _ _ 32 40 h (by simp [beN_length]), fromBE_beN_of_lt (u64_lt idx),
      toSigned_u64 idx h1 h2]

theorem genReqId_length (ctx : Bytes) (batch : Nat) (height index : Int) (h : ctx.length = 40) :
    (genReqId ctx batch height index).length = 58 := by
  simp [genReqId, beN_length, h]

theorem slices4 (c b h i : Bytes) (hc : c.length = 40) (hb : b.length = 8) (hh : h.length = 8) (hi : i.length = 2) :
    sliceOf 0 40 (c ++ (b ++ (h ++ i))) = c ∧ sliceOf 40 48 (c ++ (b ++ (h ++ i))) = b ∧
    sliceOf 48 56 (c ++ (b ++ (h ++ i))) = h ∧ sliceOf 56 58 (c ++ (b ++ (h ++ i))) = i := by
  refine ⟨slice_left _ _ 40 hc, slice_mid _ _ _ 40 48 hc (by rw [hb]), ?_, ?_⟩
  · rw [← List.append_assoc]
    exact slice_mid _ _ _ 48 56 (by rw [List.length_append, hc, hb]) (by rw [hh])
  · rw [← List.append_assoc, ← List.append_assoc]
    exact slice_last _ _ 56 58 (by rw [List.length_append, List.length_append, hc, hb, hh]) (by rw [hi])

theorem splitReqId_eq_some_iff {id ctx : Bytes} {batch : Nat} {height index : Int} :
    splitReqId id = some (ctx, batch, height, index) ↔
      genReqId ctx batch height index = id ∧ ctx.length = 40 ∧ batch < 2 ^ 64 ∧
        (-2 ^ 63 ≤ height ∧ height < 2 ^ 63) ∧ (-2 ^ 15 ≤ index ∧ index < 2 ^ 15) := by
  constructor
  · intro h
    simp only [splitReqId, Option.ite_none_right_eq_some, Option.some.injEq, Prod.mk.injEq] at h
    obtain ⟨hl, rfl, rfl, rfl, rfl⟩ := h
    have hs1 : (sliceOf 40 48 id).length = 8 := sliceOf_length hl (by decide)
    have hs2 : (sliceOf 48 56 id).length = 8 := sliceOf_length hl (by decide)
    have hs3 : (sliceOf 56 58 id).length = 2 := sliceOf_length hl (by decide)
    have lt1 := fromBE_lt_of_length hs1
    have lt2 := fromBE_lt_of_length hs2
    have lt3 := fromBE_lt_of_length hs3
    refine ⟨?_, sliceOf_length hl (by decide), lt1, toSigned8_range _ lt2, toSigned2_range _ lt3⟩
    rw [genReqId, u64_toSigned _ lt2, u16_toSigned _ lt3, beN_fromBE 8 _ hs1, beN_fromBE 8 _ hs2, beN_fromBE 2 _ hs3,
      slice_append id (by decide) (by decide), slice_append id (by decide) (by decide),
      slice_append id (by decide) (by decide), slice_all (Nat.le_of_eq hl)]
  · rintro ⟨rfl, h, hb, ⟨h1, h2⟩, i1, i2⟩
    unfold splitReqId
    rw [if_pos (genReqId_length ctx batch height index h)]
    unfold genReqId
    obtain ⟨s1, s2, s3, s4⟩ := slices4 ctx (beN 8 batch) (beN 8 (u64 height)) (beN 2 (u16 index)) h
      (beN_length _ _) (beN_length _ _) (beN_length _ _)
    rw [s1, s2, s3, s4, fromBE_beN_of_lt (w := 8) hb, fromBE_beN_of_lt (u64_lt height),
      fromBE_beN_of_lt (u16_lt index), toSigned_u64 height h1 h2, toSigned_u16 index i1 i2]

end SM.Keys
