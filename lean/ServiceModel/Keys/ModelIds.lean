import ServiceModel.Keys.Ids
import ServiceModel.Model.Types
/-!
# The abstract identifiers of the state-machine model and their bytes (core Lean only)

The model (`Model/Types.lean`) carries identifiers as tuples of naturals: `CtxId {hash idx}`,
`ReqId {ctx batch height index}`, and iterates requests in `ReqId.le` order.  This file maps
them to the real bytes and proves, for in-range tuples, that the map is injective, that it
is what `GenerateRequestContextID` / `GenerateRequestID` produce, and that the byte-wise
order of the store (`lexLe`, Go's `bytes.Compare`) is the tuple order of the model.
-/
namespace SM.Keys

def encCtx (c : CtxId) : Bytes := beN 32 c.hash ++ beN 8 c.idx
def encReq (r : ReqId) : Bytes := encCtx r.ctx ++ (beN 8 r.batch ++ (beN 8 r.height ++ beN 2 r.index))

/-- the tuple is representable: 32-byte hash, non-negative int64 index -/
def CtxId.InRange (c : CtxId) : Prop := c.hash < 2 ^ 256 ∧ c.idx < 2 ^ 63
/-- uint64 batch counter, non-negative int64 height, non-negative int16 index -/
def ReqId.InRange (r : ReqId) : Prop :=
  CtxId.InRange r.ctx ∧ r.batch < 2 ^ 64 ∧ r.height < 2 ^ 63 ∧ r.index < 2 ^ 15

theorem encCtx_length (c : CtxId) : (encCtx c).length = 40 := by simp [encCtx, beN_length]
theorem encReq_length (r : ReqId) : (encReq r).length = 58 := by simp [encReq, encCtx, beN_length]

theorem encCtx_eq_gen (c : CtxId) (h : CtxId.InRange c) : encCtx c = genCtxId (beN 32 c.hash) (c.idx : Int) := by
  unfold encCtx genCtxId
  rw [u64_ofNat _ h.2]

theorem encReq_eq_gen (r : ReqId) (h : ReqId.InRange r) :
    encReq r = genReqId (encCtx r.ctx) r.batch (r.height : Int) (r.index : Int) := by
  unfold encReq genReqId
  rw [u64_ofNat _ h.2.2.1, u16_ofNat _ h.2.2.2]

theorem split_encReq (r : ReqId) (h : ReqId.InRange r) :
    splitReqId (encReq r) = some (encCtx r.ctx, r.batch, (r.height : Int), (r.index : Int)) := by
  have hh := h.2.2.1
  have hi := h.2.2.2
  exact splitReqId_eq_some_iff.mpr
    ⟨(encReq_eq_gen r h).symm, encCtx_length _, h.2.1, ⟨by omega, by omega⟩, by omega, by omega⟩

theorem CtxId.InRange.fits {c : CtxId} (h : CtxId.InRange c) : c.hash < 2 ^ (8 * 32) ∧ c.idx < 2 ^ (8 * 8) :=
  ⟨h.1, Nat.lt_trans h.2 (by decide)⟩

theorem ReqId.InRange.fits {r : ReqId} (h : ReqId.InRange r) :
    r.batch < 2 ^ (8 * 8) ∧ r.height < 2 ^ (8 * 8) ∧ r.index < 2 ^ (8 * 2) :=
  ⟨h.2.1, Nat.lt_trans h.2.2.1 (by decide), Nat.lt_trans h.2.2.2 (by decide)⟩

theorem encCtx_inj (a b : CtxId) (ha : CtxId.InRange a) (hb : CtxId.InRange b) (h : encCtx a = encCtx b) : a = b := by
  obtain ⟨h1, h2⟩ := List.append_inj h (by rw [beN_length, beN_length])
  cases a; cases b
  exact congr (congrArg CtxId.mk (beN_inj_of_lt ha.fits.1 hb.fits.1 h1)) (beN_inj_of_lt ha.fits.2 hb.fits.2 h2)

theorem encReq_inj (a b : ReqId) (ha : ReqId.InRange a) (hb : ReqId.InRange b) (h : encReq a = encReq b) : a = b := by
  obtain ⟨a1, a2, a3⟩ := ha.fits
  obtain ⟨b1, b2, b3⟩ := hb.fits
  obtain ⟨h0, h⟩ := List.append_inj h (by rw [encCtx_length, encCtx_length])
  obtain ⟨h1, h⟩ := List.append_inj h (by rw [beN_length, beN_length])
  obtain ⟨h2, h3⟩ := List.append_inj h (by rw [beN_length, beN_length])
  cases a; cases b
  exact congr (congr (congr (congrArg ReqId.mk (encCtx_inj _ _ ha.1 hb.1 h0)) (beN_inj_of_lt a1 b1 h1))
    (beN_inj_of_lt a2 b2 h2)) (beN_inj_of_lt a3 b3 h3)

theorem lexLe_encCtx (a b : CtxId) (ha : CtxId.InRange a) (hb : CtxId.InRange b) :
    lexLe (encCtx a) (encCtx b) = a.le b := by
  rw [Bool.eq_iff_iff, lexLe_iff _ _ (by rw [encCtx_length, encCtx_length]), encCtx, encCtx,
    fromBE_append_le _ _ (by rw [beN_length, beN_length]), fromBE_beN_of_lt ha.fits.1, fromBE_beN_of_lt hb.fits.1,
    fromBE_beN_of_lt ha.fits.2, fromBE_beN_of_lt hb.fits.2]
  by_cases e : a.hash = b.hash <;> simp [CtxId.le, e]

theorem lexLe_encReq (a b : ReqId) (ha : ReqId.InRange a) (hb : ReqId.InRange b) :
    lexLe (encReq a) (encReq b) = a.le b := by
  obtain ⟨a1, a2, a3⟩ := ha.fits
  obtain ⟨b1, b2, b3⟩ := hb.fits
  have hc := lexLe_encCtx _ _ ha.1 hb.1
  have hcl : (encCtx a.ctx).length = (encCtx b.ctx).length := by rw [encCtx_length, encCtx_length]
  rw [Bool.eq_iff_iff, lexLe_iff _ _ hcl] at hc
  -- as numbers, the ids compare field by field, in the order of `ReqId.le`
  rw [Bool.eq_iff_iff, lexLe_iff _ _ (by rw [encReq_length, encReq_length]), encReq, encReq,
    fromBE_append_le _ _ (by simp [beN_length]), fromBE_append_le _ _ (by simp [beN_length]),
    fromBE_append_le _ _ (by rw [beN_length, beN_length]), fromBE_beN_of_lt a1, fromBE_beN_of_lt b1,
    fromBE_beN_of_lt a2, fromBE_beN_of_lt b2, fromBE_beN_of_lt a3, fromBE_beN_of_lt b3]
  unfold ReqId.le
  by_cases e : a.ctx = b.ctx
  · simp [e]
  · have : fromBE (encCtx a.ctx) ≠ fromBE (encCtx b.ctx) := fun h => e (encCtx_inj _ _ ha.1 hb.1 (fromBE_inj hcl h))
    rw [if_pos e, if_pos this, ← hc]
    omega

end SM.Keys
