import ServiceModel.Keys.Layout
/-!
# Big-endian numbers of a fixed width (core Lean only)

On the byte strings of one length `w`, `fromBE` is a bijection onto the numbers below `256 ^ w`
whose inverse is `beN w`, and it carries Go's byte-wise order `lexLe` to `≤`.  A concatenation denotes
`fromBE x * 256 ^ |y| + fromBE y`, so strings made of pieces of fixed widths compare piece by piece.
The identifiers are such strings: their injectivity and order are instances.
-/
namespace SM.Keys

theorem beN_length : ∀ (w n : Nat), (beN w n).length = w
  | 0, _ => rfl
  | k+1, n => by simp [beN, beN_length k]

theorem fromBE_snoc (l : Bytes) (b : UInt8) : fromBE (l ++ [b]) = fromBE l * 256 + b.toNat := by
  simp [fromBE, List.foldl_append]

theorem fromBE_append (x y : Bytes) : fromBE (x ++ y) = fromBE x * 256 ^ y.length + fromBE y := by
  induction y generalizing x with
  | nil => simp [fromBE]
  | cons b y ih =>
    -- `x ++ b :: y` is `(x ++ [b]) ++ y`, and `b :: y` is `[b] ++ y`
    rw [← List.singleton_append, ← List.append_assoc, ih, fromBE_snoc, ih [b], List.length_append, Nat.pow_add,
      List.length_singleton, Nat.pow_one, Nat.add_mul, ← Nat.mul_assoc, Nat.add_assoc]
    simp [fromBE]

theorem fromBE_beN : ∀ (w n : Nat), fromBE (beN w n) = n % 256 ^ w
  | 0, n => by simp [beN, fromBE, Nat.mod_one]
  | k+1, n => by
    have hb : (UInt8.ofNat (n % 256)).toNat = n % 256 := by simp [UInt8.toNat_ofNat']
    rw [beN, fromBE_snoc, fromBE_beN k, hb, Nat.pow_succ', Nat.mod_mul, Nat.add_comm, Nat.mul_comm]

theorem beN_fromBE : ∀ (w : Nat) (l : Bytes), l.length = w → beN w (fromBE l) = l
  | 0, l, h => by rw [List.eq_nil_of_length_eq_zero h]; rfl
  | k+1, l, h => by
    rcases List.eq_nil_or_concat l with rfl | ⟨l', b, rfl⟩
    · simp at h
    · have hl : l'.length = k := by simpa using h
      have hb := b.toNat_lt
      rw [List.concat_eq_append, fromBE_snoc, beN, Nat.mul_comm, Nat.mul_add_div (by decide), Nat.mul_add_mod,
        Nat.div_eq_of_lt hb, Nat.mod_eq_of_lt hb, Nat.add_zero, beN_fromBE k l' hl, UInt8.ofNat_toNat]

theorem beN_mod (w n : Nat) : beN w (n % 256 ^ w) = beN w n := by
  rw [← fromBE_beN, beN_fromBE w _ (beN_length w n)]

theorem beN_inj {w a b : Nat} : beN w a = beN w b ↔ a % 256 ^ w = b % 256 ^ w :=
  ⟨fun h => by rw [← fromBE_beN, ← fromBE_beN, h], fun h => by rw [← beN_mod w a, h, beN_mod]⟩

theorem fromBE_lt (l : Bytes) : fromBE l < 256 ^ l.length := by
  -- `l` is `beN l.length (fromBE l)`, and the number of that is reduced modulo `256 ^ l.length`
  have h := fromBE_beN l.length (fromBE l)
  rw [beN_fromBE _ l rfl] at h
  rw [h]
  exact Nat.mod_lt _ (Nat.pow_pos (by decide))

theorem fromBE_inj {x y : Bytes} (hl : x.length = y.length) (h : fromBE x = fromBE y) : x = y := by
  rw [← beN_fromBE _ x rfl, h, beN_fromBE _ y hl.symm]

theorem radix_le {m a b c d : Nat} (hb : b < m) (hd : d < m) :
    a * m + b ≤ c * m + d ↔ if a ≠ c then a < c else b ≤ d := by
  by_cases h : a = c
  · subst h
    simp
  · rw [if_pos h]
    rcases Nat.lt_or_gt_of_ne h with h | h <;>
    · have := Nat.mul_le_mul_right m h
      rw [Nat.succ_mul] at this
      omega

theorem fromBE_append_le (x x' : Bytes) {y y' : Bytes} (h : y.length = y'.length) :
    fromBE (x ++ y) ≤ fromBE (x' ++ y') ↔
      if fromBE x ≠ fromBE x' then fromBE x < fromBE x' else fromBE y ≤ fromBE y' := by
  rw [fromBE_append, fromBE_append, h]
  exact radix_le (h ▸ fromBE_lt y) (fromBE_lt y')

theorem lexLe_iff : ∀ (x y : Bytes), x.length = y.length → (lexLe x y = true ↔ fromBE x ≤ fromBE y)
  | [], [], _ => by simp [lexLe, fromBE]
  | [], _ :: _, h => by simp at h
  | _ :: _, [], h => by simp at h
  | a :: as, b :: bs, h => by
    have hl : as.length = bs.length := by simpa using h
    rw [← List.singleton_append, ← List.singleton_append (l := bs), fromBE_append_le _ _ hl, ← lexLe_iff as bs hl]
    by_cases e : a = b <;> simp [lexLe, fromBE, UInt8.lt_iff_toNat_lt, UInt8.toNat_inj, *]

/-! The widths as powers of two, in which the ranges of the Go integer types are written. -/

theorem pow256 (w : Nat) : (256 : Nat) ^ w = 2 ^ (8 * w) := by rw [Nat.pow_mul]

theorem fromBE_lt_of_length {l : Bytes} {w : Nat} (h : l.length = w) : fromBE l < 2 ^ (8 * w) := by
  rw [← pow256, ← h]
  exact fromBE_lt l

theorem fromBE_beN_of_lt {w n : Nat} (h : n < 2 ^ (8 * w)) : fromBE (beN w n) = n := by
  rw [fromBE_beN, pow256, Nat.mod_eq_of_lt h]

theorem beN_inj_of_lt {w a b : Nat} (ha : a < 2 ^ (8 * w)) (hb : b < 2 ^ (8 * w)) (h : beN w a = beN w b) : a = b := by
  rw [← fromBE_beN_of_lt ha, h, fromBE_beN_of_lt hb]

end SM.Keys
