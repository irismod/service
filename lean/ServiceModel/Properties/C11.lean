import ServiceModel.Proofs.Reachable
import ServiceModel.Proofs.Eventually
import ServiceModel.Proofs.Restart
import ServiceModel.Proofs.MonitorSound
/-!
# C11 — A running context is never stranded
-/
namespace SM.C11

variable {cfg : Config} {p : Params} {h0 t0 : Int}

/-- The two queues and their per-context pointers mirror each other: no context has two events of the same kind. -/
theorem queues_mirror_pointers (hc : CfgOK cfg p) {s : State} (hr : Reachable cfg p h0 t0 s) :
    (∀ h c, (h, c) ∈ s.newQ ↔ Map.get s.newH c = some h) ∧ (∀ h c, (h, c) ∈ s.expQ ↔ Map.get s.expH c = some h) :=
  ⟨(reachable_inv hc hr).x.newMirror, (reachable_inv hc hr).x.expMirror⟩

/-- Scheduled events never lie in the past and never refer to a missing context. -/
theorem events_not_past_and_context_exists (hc : CfgOK cfg p) {s : State} (hr : Reachable cfg p h0 t0 s) :
    (∀ c h, Map.get s.newH c = some h → s.height ≤ h ∧ (Map.get s.ctxs c).isSome) ∧
    (∀ c h, Map.get s.expH c = some h → s.height ≤ h ∧ (Map.get s.ctxs c).isSome) :=
  ⟨(reachable_inv hc hr).x.newFuture, (reachable_inv hc hr).x.expFuture⟩

/-- Every running context has exactly one pending scheduled event: its next batch or the expiry of its current batch. -/
theorem running_has_exactly_one_event (hc : CfgOK cfg p) {s : State} (hr : Reachable cfg p h0 t0 s)
    (c : CtxId) (x : Ctx) (hx : Map.get s.ctxs c = some x) (hrun : x.state = .running) :
    ((Map.get s.newH c).isSome ∧ Map.get s.expH c = none) ∨ (Map.get s.newH c = none ∧ (Map.get s.expH c).isSome) := by
  have h := (reachable_inv hc hr).x
  have hq := h.runningQ c x hx hrun
  rcases h.single c with hn | he
  · exact .inr ⟨hn, hq.resolve_left (by rw [hn]; nofun)⟩
  · exact .inl ⟨hq.resolve_right (by rw [he]; nofun), he⟩

/-- Every pending request belongs to the current batch of an existing context whose pending expiry is at the
    request's expiration height — so the end of that block will expire (and refund) it unless it is answered first. -/
theorem pending_request_wellformed (hc : CfgOK cfg p) {s : State} (hr : Reachable cfg p h0 t0 s)
    (r : ReqId) (hact : r ∈ s.activeI) :
    ∃ q x, Map.get s.reqs r = some q ∧ Map.get s.ctxs r.ctx = some x ∧ r.batch = x.batch ∧
      Map.get s.expH r.ctx = some q.expH ∧ (q.expH, r.ctx) ∈ s.expQ ∧ s.height ≤ q.expH := by
  have h := reachable_inv hc hr
  obtain ⟨q, x, hq, hx, hb, he⟩ := h.x.pending hact
  exact ⟨q, x, hq, hx, hb, he, (h.x.expMirror _ _).mpr he, (h.x.expFuture _ _ he).1⟩

/-- The next end-of-block at a scheduled height handles the entry: after an end of block nothing remains
    scheduled at the height that just ended. -/
theorem nothing_left_at_ended_height (hc : CfgOK cfg p) {s : State} (hr : Reachable cfg p h0 t0 s) (dt : Int)
    (hnp : (endBlock s dt).panic = none) :
    (∀ c, Map.get (endBlock s dt).s.newH c ≠ some s.height) ∧ (∀ c, Map.get (endBlock s dt).s.expH c ≠ some s.height) := by
  obtain ⟨s2, -, -, hn, he, hs⟩ := endBlock_phases (reachable_inv hc hr) dt
  rw [hs]
  exact ⟨hn, he⟩

/-- When block `H` ends, no request whose expiry height is `H` is pending any more: it was expired (slashed and
    refunded, C02/C04) by that very end of block unless it had been answered before. -/
theorem pending_request_gone_after_its_expiry_block (hc : CfgOK cfg p) {s : State} (hr : Reachable cfg p h0 t0 s)
    (dt : Int) (r : ReqId) (q : Req) (hq : Map.get s.reqs r = some q) (he : q.expH = s.height) :
    r ∉ (endBlock s dt).s.activeI := expiry_block_clears s dt (reachable_inv hc hr) r q hq he

/-- "Eventually answered or expired", over every history: along every well-formed continuation, a request that is
    still pending has not passed its expiry height (fixed when it was issued) … -/
theorem pending_request_never_outlives_expiry (hc : CfgOK cfg p) {s s' : State} (hr : Reachable cfg p h0 t0 s)
    (hl : Leads s s') (r : ReqId) (q : Req) (hact : r ∈ s.activeI) (hq : Map.get s.reqs r = some q)
    (hact' : r ∈ s'.activeI) : s'.height ≤ q.expH := pending_bounded hc hr hl r q hact hq hact'

/-- … and every block raises the height by exactly one, so after at most `expiry − height + 1` further blocks the
    request is no longer pending (and, by C02, has been settled exactly once). -/
theorem every_block_advances_height (hc : CfgOK cfg p) {s : State} (hr : Reachable cfg p h0 t0 s) (dt : Int) :
    (step s (.endblock dt)).1.height = s.height + 1 := endblock_advances (reachable_inv hc hr) dt

/-- The state clauses in every state of a chain that goes through any number of zero-height restarts (a restart leaves
    both queues empty and every context paused, so nothing is stranded by it): queues mirror their pointers, events are
    not in the past and refer to existing contexts, a running context has an event and never two, and every pending
    request belongs to the current batch of an existing context whose pending expiry is at the request's expiry height. -/
theorem scheduling_invariants_across_restarts (hc : CfgOK cfg p) {s : State} (hr : ReachableR cfg p h0 t0 s) :
    (∀ h c, (h, c) ∈ s.newQ ↔ Map.get s.newH c = some h) ∧ (∀ h c, (h, c) ∈ s.expQ ↔ Map.get s.expH c = some h) ∧
    (∀ c h, Map.get s.newH c = some h → s.height ≤ h ∧ (Map.get s.ctxs c).isSome) ∧
    (∀ c h, Map.get s.expH c = some h → s.height ≤ h ∧ (Map.get s.ctxs c).isSome) ∧
    (∀ c, Map.get s.newH c = none ∨ Map.get s.expH c = none) ∧
    (∀ c x, Map.get s.ctxs c = some x → x.state = .running → (Map.get s.newH c).isSome ∨ (Map.get s.expH c).isSome) ∧
    (∀ r, r ∈ s.activeI → ∃ q x, Map.get s.reqs r = some q ∧ Map.get s.ctxs r.ctx = some x ∧ r.batch = x.batch ∧
      Map.get s.expH r.ctx = some q.expH) := by
  have h := (reachableR_invAll hc hr).inv
  exact ⟨h.x.newMirror, h.x.expMirror, h.x.newFuture, h.x.expFuture, h.x.single, h.x.runningQ, fun _ => h.x.pending⟩

/-- The executable monitor `queues` (`Inv/Monitors.lean`), which the check evaluates on every state decoded from the
    implementation's trace, is implied by the invariants: on every chain — any operations, any number of restarts —
    it reports nothing (it walks the raw lists of the state; that each map holds one record per key is
    `keys1_reachableR`). An alarm of it on an implementation state therefore means a state the model cannot reach. -/
theorem scheduling_monitor_implied (hc : CfgOK cfg p) {s : State} (hr : ReachableR cfg p h0 t0 s) :
    Mon.queues s = [] := (scheduling_monitors_quiet_on_chains_with_restarts hc hr).1

end SM.C11
