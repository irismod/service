import ServiceModel.Proofs.RestartStable
/-!
# C19 — State survives export and re-import; zero-height export returns all escrow

`prep`, `exportG`, `validateG`, `importG` (Model/Genesis.lean) mirror `PrepForZeroHeightGenesis`,
`ExportGenesis`, `ValidateGenesis`, `InitGenesis`. They are tied to the code by the ops `prep`, `export`,
`validate`, `reimport` of the correspondence run (monitor `genesisLaw`: one model step from the
implementation's own state must give the implementation's next state, effects and exported genesis).
The JSON round trip is outside the model (checked on the code alone, op `jsonrt`).
-/
namespace SM.C19
open Map

variable {cfg : Config} {p : Params} {h0 t0 : Int}

/-- Only the signer of an accepted response earns, and a module account has no key (`WF`, assumption E1). -/
theorem earners_are_not_escrow {s : State} (hr : Reachable cfg p h0 t0 s) :
    ∀ a, (get s.earned a).isSome → a ≠ s.cfg.escrow :=
  fun a ha e => earnOK hr a ha (Or.inl e)

/-- The preparation cannot fail in a reachable state and leaves the request escrow empty. -/
theorem prep_succeeds_and_empties_escrow (hc : CfgOK cfg p) {s : State} (hr : Reachable cfg p h0 t0 s) :
    (prep s).panic = none ∧ balOf (prep s).s.bank.bal s.cfg.escrow = 0 :=
  let h := prep_spec (reachable_inv hc hr) (earners_are_not_escrow hr)
  ⟨h.1, h.2.1⟩

/-- Every pending request's fee goes back to the consumer of its context. -/
theorem prep_refunds_every_pending_fee (hc : CfgOK cfg p) {s : State} (hr : Reachable cfg p h0 t0 s)
    (r : ReqId) (hact : r ∈ s.activeI) :
    ∃ q x, get s.reqs r = some q ∧ get s.ctxs r.ctx = some x ∧
      (q.fee ≠ 0 → Effect.transfer s.cfg.escrow x.cons q.fee ∈ (prep s).effs) := by
  have h := reachable_inv hc hr
  obtain ⟨q, x, hq, hx, -, -⟩ := h.x.pending hact
  refine ⟨q, x, hq, hx, (prep_spec h (earners_are_not_escrow hr)).2.2 (x.cons, q.fee) ?_⟩
  -- the index of pending requests has an entry for `r`, for which the preparation owes `q.fee` to `x.cons`
  have hm : (x.svc, q.prov, q.expH, r) ∈ s.activeB :=
    (h.x.activeMirror _ _ _ _).mpr ⟨hact, q, x, hq, hx, rfl, rfl, rfl⟩
  exact List.mem_append_left _ (List.mem_map.mpr ⟨_, (FSet.mem_elems _ _).mpr hm, entryPay_of hq hx⟩)

/-- Every unwithdrawn earning goes to its provider. -/
theorem prep_refunds_every_earning (hc : CfgOK cfg p) {s : State} (hr : Reachable cfg p h0 t0 s) (pv : Addr) (n : Nat)
    (he : get s.earned pv = some n) (hn : n ≠ 0) :
    Effect.transfer s.cfg.escrow pv n ∈ (prep s).effs :=
  (prep_spec (reachable_inv hc hr) (earners_are_not_escrow hr)).2.2 (pv, n)
    (List.mem_append_right _ ((mem_entries _ _ _).mpr he)) hn

/-- After the preparation every context is paused with no batch in flight, and is otherwise unchanged. -/
theorem prep_pauses_every_context (s : State) (hnp : (prep s).panic = none) (c : CtxId) (x : Ctx)
    (hx : get (prep s).s.ctxs c = some x) :
    x.state = .paused ∧ x.bstate = .completed ∧ x.reqN = 0 ∧ x.respN = 0 ∧
    ∃ x0, get s.ctxs c = some x0 ∧ x = resetCtx x0 := by
  rw [prep_ctxs hnp] at hx
  obtain ⟨x0, hx0, rfl⟩ := Option.map_eq_some_iff.mp hx
  exact ⟨rfl, rfl, rfl, rfl, x0, hx0, rfl⟩

/-- The preparation changes nothing else that is exported. -/
theorem prep_keeps_other_records (hc : CfgOK cfg p) {s : State} (hr : Reachable cfg p h0 t0 s) :
    (prep s).s.params = s.params ∧ (prep s).s.defs = s.defs ∧ (prep s).s.bindings = s.bindings ∧
    (prep s).s.withdraw = s.withdraw ∧ (prep s).s.pricing = s.pricing ∧ (prep s).s.ownerBind = s.ownerBind ∧
    (prep s).s.owner = s.owner ∧ (prep s).s.ownerProv = s.ownerProv := by
  rw [prep_frame s]
  exact ⟨rfl, rfl, rfl, rfl, rfl, rfl, rfl, rfl⟩

/-- The genesis exported after the preparation always passes validation (on the fields the model carries): the
    parameters are legal, every definition, binding, withdraw-address key and context is valid on its own
    (invariants `recOK`, `ctxsFieldsOK`: records are only written by messages that passed stateless validation, or by
    another module passing valid arguments — assumptions E1/E8 carried by `WF`), and the preparation has paused every
    context with its batch completed. -/
theorem validate_after_prep (hc : CfgOK cfg p) {s : State} (hr : Reachable cfg p h0 t0 s) :
    validateG (exportG (prep s).s) = true :=
  validate_after_prep_of (reachableR_invAll hc hr.toR)

/-- A reachable state whose exported genesis is valid can be imported into a fresh chain (any configuration of module
    accounts, any height), and exporting from there gives the identical genesis; the three ownership indexes and the
    price terms of the imported bindings are rebuilt consistently with the imported bindings. -/
theorem export_import_export (hc : CfgOK cfg p) {s : State} (hr : Reachable cfg p h0 t0 s)
    (hv : validateG (exportG s) = true) (cfg' : Config) (height time : Int) :
    ∃ s', importG cfg' (exportG s) height time = some s' ∧
      exportG s' = exportG s ∧
      (∀ o svc pv, (o, svc, pv) ∈ s'.ownerBind ↔ ∃ b, get s'.bindings (svc, pv) = some b ∧ b.owner = o) ∧
      (∀ svc pv b, get s'.bindings (svc, pv) = some b → get s'.owner pv = some b.owner) ∧
      (∀ o pv, (o, pv) ∈ s'.ownerProv ↔ get s'.owner pv = some o) ∧
      (∀ k b, get s'.bindings k = some b → ∃ pr, get s'.pricing k = some pr ∧ parsePricing b.text = .ok pr) ∧
      (∀ k, (get s'.pricing k).isSome → (get s'.bindings k).isSome) := by
  have hB := (reachable_inv hc hr).b
  have hI := hB.import (bindings_nodupKeys hr) (fun _ => rfl)
  refine ⟨_, importG_eq.mpr ⟨hv, fun e he => ?_, rfl⟩, ?_, ?_⟩
  · exact (hB.priced e.1 e.2 ((mem_entries _ _ _).mp he)).imp fun _ h => h.2.1
  · simp only [exportG, genesis, foldl_set_entries, entries_idem]
  · simp only [exportG, foldl_set_entries]
    exact ⟨hI.bindIdx, hI.ownerOf, hI.provIdx, fun k b hg => (hI.priced k b hg).imp fun _ h => ⟨h.1, h.2.1⟩,
      hI.pricingOnly⟩

/-! ### the chain after the restart

`restart` (Model/Restart.lean) is what a zero-height restart does to the module: preparation, export, `InitGenesis`
into a fresh store, balances carried by the bank module. "State survives export and re-import" is read as: the
restarted chain starts from a state that has the same exportable content and satisfies every state invariant the
property theorems C01, C03, C10–C16 rest on — and therefore so does every state it reaches afterwards. -/

/-- For every reachable export point the restart succeeds; the state it produces exports the same genesis and
    satisfies every invariant, under the same configuration and parameters. -/
theorem restart_succeeds_and_keeps_invariants (hc : CfgOK cfg p) {s : State} (hr : Reachable cfg p h0 t0 s)
    (height time : Int) :
    ∃ s0, restart s height time = some s0 ∧ exportG s0 = exportG (prep s).s ∧ Inv s0 ∧
      s0.cfg = s.cfg ∧ s0.params = s.params := by
  obtain ⟨s0, h1, h2, h3, h4, _, _, h7⟩ := restart_inv hc hr height time
  exact ⟨s0, h1, h7, h2, h3, h4⟩

/-- Every state of the restarted chain — any number of further well-formed operations and blocks — satisfies the
    invariants: in particular the request escrow holds exactly the pending fees plus the unwithdrawn earnings (C01)
    and the deposit account exactly the recorded deposits (C03). -/
theorem restarted_chain_stays_backed (hc : CfgOK cfg p) {s : State} (hr : Reachable cfg p h0 t0 s)
    (height time : Int) {s0 s1 : State} (h0' : restart s height time = some s0) (hr1 : ReachableFrom s0 s1) :
    Inv s1 ∧
    balOf s1.bank.bal s1.cfg.escrow = activeFees s1 + earnedSum s1 ∧
    balOf s1.bank.bal s1.cfg.deposit = depositSum s1 := by
  have hi := inv_reachableFrom ((reachableR_invAll hc hr.toR).restart h0').inv hr1
  exact ⟨hi, hi.m.escrow_backed, hi.b.backed⟩

/-- The restarted chain starts with nothing in flight: no queue entry, request, response, pending marker or
    earning, every context paused with its batch completed, and an empty request escrow. -/
theorem restarted_chain_starts_quiescent (hc : CfgOK cfg p) {s : State} (hr : Reachable cfg p h0 t0 s)
    (height time : Int) {s0 : State} (h0' : restart s height time = some s0) :
    balOf s0.bank.bal s0.cfg.escrow = 0 ∧
    ∀ c x, get s0.ctxs c = some x → x.state = .paused ∧ x.bstate = .completed := by
  refine ⟨?_, fun c x hx => ?_⟩
  · obtain ⟨-, -, -, rfl⟩ := restart_eq.mp h0'
    exact (prep_succeeds_and_empties_escrow hc hr).2
  · obtain ⟨x0, -, rfl⟩ := restart_ctx_of h0' hx
    exact ⟨rfl, rfl⟩

/-- **Any number of restarts.** On a chain that has gone through any number of zero-height restarts, at arbitrary
    heights and times and with any well-formed operations in between (`ReachableR`), every state satisfies every state
    invariant — in particular the backing equations of C01 and C03 —, every further restart succeeds, and the genesis
    exported after a preparation is always valid. -/
theorem chain_with_restarts_keeps_invariants (hc : CfgOK cfg p) {s : State} (hr : ReachableR cfg p h0 t0 s) :
    Inv s ∧
    balOf s.bank.bal s.cfg.escrow = activeFees s + earnedSum s ∧
    balOf s.bank.bal s.cfg.deposit = depositSum s ∧
    validateG (exportG (prep s).s) = true ∧
    ∀ height time, (restart s height time).isSome := by
  have hall := reachableR_invAll hc hr
  exact ⟨hall.inv, hall.inv.m.escrow_backed, hall.inv.b.backed, validate_after_prep_of hall, hall.restart_isSome⟩

/-- What the restarted chain reads back, as point lookups: every definition, every binding (the whole record —
    deposit, price text, availability, disabling time, owner), every withdrawal address and every provider's owner are
    those of the old chain, the parameters and the module accounts too. -/
theorem restart_gives_back_the_same_records (hc : CfgOK cfg p) {s s' : State} (hr : ReachableR cfg p h0 t0 s)
    {height time : Int} (hre : restart s height time = some s') :
    (∀ n, get s'.defs n = get s.defs n) ∧ (∀ k, get s'.bindings k = get s.bindings k) ∧
    (∀ o, get s'.withdraw o = get s.withdraw o) ∧ (∀ pv, get s'.owner pv = get s.owner pv) ∧
    s'.params = s.params ∧ s'.cfg = s.cfg :=
  let h := restart_records (reachableR_invAll hc hr).inv.b hre
  ⟨h.defs, h.bindings, h.withdraw, h.owner, h.params, h.cfg⟩

end SM.C19
