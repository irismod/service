import ServiceModel.Proofs.Reachable
import ServiceModel.Proofs.Debit
/-!
# C05 — Only the rightful party can act, and a message debits only its signer
-/
namespace SM.C05

/-- Updating a binding succeeds only when signed by its owner. -/
theorem update_only_by_owner (s : State) (svc : SvcName) (pv o : Addr) (dep : Option Nat) (text : Option PricingText) (qos : Nat)
    (h : (update s svc pv o dep text qos).2.1 = .ok) : ∃ b, Map.get s.bindings (svc, pv) = some b ∧ o = b.owner := by
  obtain ⟨_, _, hm, _⟩ := (update_msg rfl).ok h
  cases hm with
  | update hb ho => exact ⟨_, hb, ho⟩

theorem disable_only_by_owner (s : State) (svc : SvcName) (pv o : Addr) (h : (disable s svc pv o).2.1 = .ok) :
    ∃ b, Map.get s.bindings (svc, pv) = some b ∧ o = b.owner := by
  obtain ⟨_, _, hm, _⟩ := (disable_msg rfl).ok h
  cases hm with
  | disable hb ho => exact ⟨_, hb, ho⟩

theorem enable_only_by_owner (s : State) (svc : SvcName) (pv o : Addr) (dep : Option Nat) (h : (enable s svc pv o dep).2.1 = .ok) :
    ∃ b, Map.get s.bindings (svc, pv) = some b ∧ o = b.owner := by
  obtain ⟨_, _, hm, _⟩ := (enable_msg rfl).ok h
  cases hm with
  | enable hb ho => exact ⟨_, hb, ho⟩

theorem refund_only_by_owner (s : State) (svc : SvcName) (pv o : Addr) (h : (refund s svc pv o).2.1 = .ok) :
    ∃ b, Map.get s.bindings (svc, pv) = some b ∧ o = b.owner := by
  obtain ⟨_, _, hm, _⟩ := (refund_msg rfl).ok h
  cases hm with
  | refund hb ho => exact ⟨_, hb, ho⟩

/-- Withdrawing the earnings of a provider succeeds only when signed by the provider's owner. -/
theorem withdraw_only_by_owner (s : State) (o pv : Addr) (hp : pv ≠ "") (h : (withdraw s o pv).2.1 = .ok) :
    Map.get s.owner pv = some o := by
  obtain ⟨_, _, hm, _⟩ := (withdraw_msg rfl).ok h
  cases hm with
  | withdraw hown => exact hown hp

/-- Pause / start / kill / update-context messages succeed only when signed by the context's consumer, and never
    for a context created by another module. -/
theorem context_message_only_by_consumer (s : State) (c : CtxId) (cons : Addr) (k : State → Out)
    (h : (ctxMsg s c cons k).2.1 = .ok) : ∃ x, Map.get s.ctxs c = some x ∧ cons = x.cons ∧ x.mod = "" := by
  obtain ⟨r, hr, -, he⟩ | ⟨-, hx⟩ := ctxMsg_cases (rfl : ctxMsg s c cons k = _)
  · rw [he] at h; exact absurd h hr
  · exact hx

/-- A response is accepted only from the provider the request was addressed to. -/
theorem respond_only_by_provider (s : State) (r : ReqId) (pv : Addr) (code : Nat) (out : OutKind)
    (h : (respond s r pv code out).2.1 = .ok) : ∃ q, Map.get s.reqs r = some q ∧ pv = q.prov := by
  obtain ⟨_, _, hm, _⟩ := (respond_msg rfl).ok h
  cases hm with
  | respondBad hq | respondGood hq => exact ⟨_, hq, rfl⟩

/-- Binding a provider that already belongs to another owner is rejected; binding a service reserved by a module is rejected. -/
theorem bind_respects_ownership (s : State) (svc : SvcName) (pv o : Addr) (dep : Option Nat) (text : PricingText) (qos : Nat)
    (h : (bind s svc pv o dep text qos).2.1 = .ok) :
    s.cfg.modsvc ≠ some svc ∧ (∀ o2, Map.get s.owner pv = some o2 → o2 = o) := by
  obtain ⟨_, _, hm, _⟩ := (bind_msg rfl).ok h
  cases hm with
  | bind hms _ _ hown =>
    refine ⟨hms, fun o2 ho2 => ?_⟩
    rw [ho2] at hown
    obtain hown | hown := hown <;> cases hown
    rfl

def NotDebited (s s' : State) (a : Addr) : Prop := s.bal a ≤ s'.bal a

/-- the accounts an accepted `op` can debit -/
def mayDebit (s : State) (a : Addr) : Op → Prop
  | .xfer b _ _ => a = b
  | .bind _ _ o _ _ _ | .update _ _ o _ _ _ | .enable _ _ o _ => a = o
  | .refund .. => a = s.cfg.deposit
  | .respond .. => s.custody a
  | .withdraw .. => a = s.cfg.escrow
  | _ => False

theorem msg_notDebited {s s' : State} {op : Op} {e : List Effect} (h : Msg s op e s') {a : Addr}
    (ha : ¬ mayDebit s a op) : NotDebited s s' a := by
  have topUp : ∀ {o : Addr} {dep : Option Nat} {bank'},
      (if dep.isSome then bankSend s.bank o s.cfg.deposit (dep.getD 0) else some s.bank) = some bank' → a ≠ o →
      balOf s.bank.bal a ≤ balOf bank'.bal a := fun {o dep _} hb ho => by
    cases dep with
    | none => cases hb; exact Nat.le_refl _
    | some d => exact bankSend_mono hb ho
  cases h with
  | fund b n =>
    show balOf s.bank.bal a ≤ balOf (bankMint s.bank b n).bal a
    rw [bankMint_bal]; split
    · exact Nat.le_add_right ..
    · exact Nat.le_refl _
  | xfer hb | bind _ _ _ _ _ _ _ _ _ hb | refund _ _ _ _ _ hb | withdraw _ _ _ hb => exact bankSend_mono hb ha
  | update _ _ _ _ _ _ hb | enable _ _ _ _ _ _ hb => exact topUp hb ha
  -- the slash burns from the deposit account, the refund leaves the escrow
  | respondBad _ _ _ hs hb =>
    exact Nat.le_trans (((Slash.of_done hs).balMono (D := [])).2 a ha List.not_mem_nil) (bankSend_mono hb fun e => ha (.inl e))
  | respondGood _ _ _ _ hb => exact bankSend_mono hb fun e => ha (.inl e)
  | _ => exact Nat.le_refl _

theorem handled_notDebited {s : State} {op : Op} {out : Out} (h : Handled s op out) {a : Addr}
    (ha : ¬ mayDebit s a op) : NotDebited s out.1 a := by
  obtain he | ⟨_, _, hm, rfl⟩ := h.state
  · rw [he]; exact Nat.le_refl _
  · exact msg_notDebited hm ha

/-- No message lowers the balance of an ordinary account other than its signer. (`owner`/`consumer`/`provider`
    below is the signer of the respective message.) -/
theorem bind_debits_only_signer (s : State) (svc : SvcName) (pv o : Addr) (dep : Option Nat) (text : PricingText) (qos : Nat)
    (a : Addr) (ha : a ≠ o) : s.bal a ≤ (bind s svc pv o dep text qos).1.bal a :=
  handled_notDebited (bind_msg rfl) ha

theorem refund_debits_only_module (s : State) (svc : SvcName) (pv o : Addr) (a : Addr) (ha : ¬ s.modAcct a) :
    s.bal a ≤ (refund s svc pv o).1.bal a :=
  handled_notDebited (refund_msg rfl) fun e => ha (.inr (.inl e))

theorem withdraw_debits_only_module (s : State) (o pv : Addr) (a : Addr) (ha : ¬ s.modAcct a) :
    s.bal a ≤ (withdraw s o pv).1.bal a :=
  handled_notDebited (withdraw_msg rfl) fun e => ha (.inl e)

theorem respond_debits_only_module (s : State) (r : ReqId) (pv : Addr) (code : Nat) (out : OutKind) (a : Addr)
    (ha : ¬ s.modAcct a) : s.bal a ≤ (respond s r pv code out).1.bal a :=
  handled_notDebited (respond_msg rfl) fun h => ha (h.elim .inl fun e => .inr (.inl e))

theorem update_debits_only_signer (s : State) (svc : SvcName) (pv o : Addr) (dep : Option Nat) (text : Option PricingText) (qos : Nat)
    (a : Addr) (ha : a ≠ o) : s.bal a ≤ (update s svc pv o dep text qos).1.bal a :=
  handled_notDebited (update_msg rfl) ha

theorem enable_debits_only_signer (s : State) (svc : SvcName) (pv o : Addr) (dep : Option Nat)
    (a : Addr) (ha : a ≠ o) : s.bal a ≤ (enable s svc pv o dep).1.bal a :=
  handled_notDebited (enable_msg rfl) ha

/-- Expiry processing (phase 1 of the end blocker, over any list of queue entries) lowers no balance outside the
    module's two custody accounts: refunds leave the escrow, slashed coins are burned from the deposit account. -/
theorem expiry_lowers_only_custody (s : State) (l : List CtxId) (a : Addr) (ha : ¬ s.custody a) :
    balOf s.bank.bal a ≤ balOf (foldH expireBatch s l).s.bank.bal a :=
  (expirePhase_balMono s l).2 a ha List.not_mem_nil

/-- The new-batch handler of a context lowers only the balance of that context's consumer (by the price of the batch
    it issues, `C06.batch_issued`; nothing when the batch is skipped or the context is paused for lack of funds). -/
theorem new_batch_lowers_only_its_consumer (s : State) (c : CtxId) (x : Ctx) (hx : Map.get s.ctxs c = some x)
    (a : Addr) (ha : ¬ s.custody a) (hne : a ≠ x.cons) :
    balOf s.bank.bal a ≤ balOf (newBatch s c).s.bank.bal a :=
  (newBatch_balMono s c x hx).2 a ha fun h => hne (List.mem_singleton.mp h)

/-- The end of a block as a whole (both phases, any number of expiring and starting batches), in every reachable
    state: an account that is neither a custody account nor the consumer of a context existing when the block ends
    holds at least as much afterwards as before — the end blocker only spends custody money and charges consumers
    for their own batches. -/
theorem end_of_block_lowers_only_custody_and_consumers {cfg : Config} {p : Params} {h0 t0 : Int} (hc : CfgOK cfg p)
    {s : State} (hr : Reachable cfg p h0 t0 s) (dt : Int) (a : Addr) (ha : ¬ s.custody a)
    (hcons : ∀ c x, Map.get s.ctxs c = some x → x.cons ≠ a) :
    balOf s.bank.bal a ≤ balOf (endBlock s dt).s.bank.bal a := by
  refine (endBlock_balMono s dt (reachable_inv hc hr)).2 a ha (fun hin => ?_)
  obtain ⟨c, x, hg, he⟩ := (mem_consumersOf_iff s a).mp hin
  exact hcons c x hg he

end SM.C05
