import ServiceModel.Properties.C06
import ServiceModel.Proofs.Settle
/-!
# C07 — The fee charged follows the provider's published pricing
-/
namespace SM.C07

theorem chopRound_bounds (x : Nat) : x / decUnit ≤ chopRound x ∧ chopRound x ≤ x / decUnit + 1 := by
  unfold chopRound; dsimp only
  split
  · omega
  · split
    · omega
    · split <;> omega

theorem chopRound_ge (x : Nat) : x / decUnit ≤ chopRound x := (chopRound_bounds x).1

theorem chopRound_mul_unit (m : Nat) : chopRound (m * decUnit) = m := by
  unfold chopRound
  rw [Nat.mul_mod_left, Nat.mul_div_cancel _ (by decide)]
  exact if_pos (by decide)

theorem decMul_ofNat (n d : Nat) : decMul (decOfNat n) d = n * d := by
  unfold decMul decOfNat
  rw [Nat.mul_right_comm]
  exact chopRound_mul_unit _

/-- The fee formula: base price × time discount × volume discount, in the chain's 18-digit fixed point
    (the first product is exact, the second is rounded half-to-even), truncated, and never less than one unit. -/
theorem fee_formula (pr : Pricing) (time : Int) (vol : Nat) :
    priceOf pr time vol =
      max 1 (chopRound (pr.base * discT pr.promT time * discV pr.promV vol) / decUnit) := by
  unfold priceOf priceDec decTrunc
  rw [decMul_ofNat]
  unfold decMul
  dsimp only
  generalize chopRound (pr.base * discT pr.promT time * discV pr.promV vol) = d
  split
  · rw [Nat.div_self (by decide), Nat.div_eq_of_lt ‹_›]; rfl
  · have : 1 ≤ d / decUnit := (Nat.le_div_iff_mul_le (by decide)).mpr (by omega)
    omega

theorem fee_at_least_one (pr : Pricing) (time : Int) (vol : Nat) : 1 ≤ priceOf pr time vol := by
  rw [fee_formula]; omega

theorem discT_cases (ps : List PromT) (t : Int) : discT ps t = decUnit ∨ ∃ q, q ∈ ps ∧ discT ps t = q.disc ∧ q.start ≤ t ∧ t < q.stop := by
  induction ps with
  | nil => exact .inl rfl
  | cons q rest ih =>
    unfold discT
    split
    · exact .inr ⟨q, List.mem_cons_self, rfl, ‹_ ∧ _›⟩
    · exact ih.imp id fun ⟨q2, hq, h⟩ => ⟨q2, List.mem_cons_of_mem _ hq, h⟩

theorem discT_append (pre rest : List PromT) (t : Int) (hpre : ∀ r, r ∈ pre → ¬ (r.start ≤ t ∧ t < r.stop)) :
    discT (pre ++ rest) t = discT rest t := by
  induction pre with
  | nil => rfl
  | cons r pre ih =>
    simp only [List.cons_append, discT]
    rw [if_neg (hpre r List.mem_cons_self)]
    exact ih (fun r2 hr2 => hpre r2 (List.mem_cons_of_mem _ hr2))

/-- the time discount in effect: the first promotion whose window `[start, end)` contains the block time -/
theorem discT_first (ps : List PromT) (t : Int) (q : PromT) (pre : List PromT) (post : List PromT)
    (hps : ps = pre ++ q :: post) (hin : q.start ≤ t ∧ t < q.stop)
    (hpre : ∀ r, r ∈ pre → ¬ (r.start ≤ t ∧ t < r.stop)) : discT ps t = q.disc := by
  rw [hps, discT_append pre _ t hpre]
  exact if_pos hin

theorem discT_none (ps : List PromT) (t : Int) (h : ∀ r, r ∈ ps → ¬ (r.start ≤ t ∧ t < r.stop)) : discT ps t = decUnit := by
  have := discT_append ps [] t h
  rwa [List.append_nil] at this

/-- the volume discount is 1 or the discount of one of the promotions -/
theorem discV_mem (ps : List PromV) (v : Nat) : discV ps v = decUnit ∨ ∃ q, q ∈ ps ∧ discV ps v = q.disc := by
  unfold discV
  have : ∀ (rest : List PromV) (i : Nat), (∀ q, q ∈ rest → q ∈ ps) →
      discVLoop ps rest i v = decUnit ∨ ∃ q, q ∈ ps ∧ discVLoop ps rest i v = q.disc := by
    intro rest
    induction rest with
    | nil => intro i _; left; rfl
    | cons q t ih =>
      intro i hsub
      unfold discVLoop
      split
      · split
        · left; rfl
        · cases hg : ps[i - 1]? with
          | none => left; rfl
          | some q2 => right; exact ⟨q2, List.mem_of_getElem? hg, rfl⟩
      · split
        · right; exact ⟨q, hsub q (by simp), rfl⟩
        · exact ih (i + 1) (fun q2 hq2 => hsub q2 (List.mem_cons_of_mem _ hq2))
  exact this ps 0 (fun q hq => hq)

/-- Because every discount lies strictly between 0 and 1, a fee never exceeds the larger of the base price and one unit. -/
theorem fee_le_base (pr : Pricing) (time : Int) (vol : Nat)
    (hT : ∀ q, q ∈ pr.promT → q.disc < decUnit) (hV : ∀ q, q ∈ pr.promV → q.disc < decUnit) :
    priceOf pr time vol ≤ max pr.base 1 := by
  rw [fee_formula]
  have h1 : discT pr.promT time ≤ decUnit := by
    rcases discT_cases pr.promT time with h | ⟨q, hq, he, _⟩
    · exact Nat.le_of_eq h
    · exact he ▸ Nat.le_of_lt (hT q hq)
  have h2 : discV pr.promV vol ≤ decUnit := by
    rcases discV_mem pr.promV vol with h | ⟨q, hq, he⟩
    · exact Nat.le_of_eq h
    · exact he ▸ Nat.le_of_lt (hV q hq)
  have hP : pr.base * discT pr.promT time * discV pr.promV vol ≤ pr.base * decUnit * decUnit :=
    Nat.mul_le_mul (Nat.mul_le_mul_left _ h1) h2
  generalize pr.base * discT pr.promT time * discV pr.promV vol = P at hP ⊢
  -- `P / decUnit ≤ base × decUnit`, and rounding adds at most one unit in the last of the 18 places, which does not
  -- carry into the units
  have hR := (chopRound_bounds P).2
  unfold decUnit at hP hR ⊢
  omega

/-- Requests made in super mode carry no fee (and the consumer pays nothing: see `C02.batch_debit_is_sum_of_fees`). -/
theorem super_requests_carry_no_fee (c : CtxId) (x : Ctx) (height : Int) (el : List (Addr × Nat)) (i : Nat)
    (hs : x.super = true) (r : ReqId) (q : Req) (h : (r, q) ∈ issuedPairs c x height el i) : q.fee = 0 := by
  obtain ⟨_, _, _, -, -, rfl⟩ := mem_issuedPairs h
  exact if_pos hs

/-- Each eligible provider's price is the price formula applied to the terms stored for its binding, the block
    time and the number of responses it has already delivered to that consumer for that service. -/
theorem eligible_price (s : State) (x : Ctx) (pv : Addr) (price : Nat) (h : (pv, price) ∈ eligible s x) :
    price = priceOf (storedPricing s x.svc pv) s.time ((Map.get s.volume (x.cons, x.svc, pv)).getD 0) := by
  obtain ⟨-, _, -, -, -, hp, -⟩ := (C06.eligible_iff s x pv price).mp h
  exact hp

/-- The volume counts the accepted responses: an accepted response raises the volume of (consumer, service, provider) by exactly one. -/
theorem volume_counts_responses (s : State) (r : ReqId) (pv : Addr) (code : Nat) (out : OutKind)
    (hok : (respond s r pv code out).2.1 = .ok) :
    ∃ x, Map.get s.ctxs r.ctx = some x ∧
      Map.get (respond s r pv code out).1.volume (x.cons, x.svc, pv) = some ((Map.get s.volume (x.cons, x.svc, pv)).getD 0 + 1) := by
  obtain ⟨_, x, _, h⟩ := respond_accepted hok
  exact ⟨x, h.ctx, by rw [h.volume, h.prov]; exact Map.get_set_same _ _ _⟩

end SM.C07
