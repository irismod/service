import ServiceModel.Properties.C19
import ServiceModel.Model.Query
import ServiceModel.Proofs.Reachable
import ServiceModel.Proofs.Cadence
import ServiceModel.Proofs.CbCount
import ServiceModel.Proofs.NoPanicMsg
import ServiceModel.Proofs.GhostRestart
import ServiceModel.Proofs.RestartStable
import ServiceModel.Proofs.OnceRestart
/-!
# Non-vacuity: the hypotheses of the property theorems are met by concrete, non-trivial reachable states

`Reachable` is built for literal operation lists by checking `WF` at every step with `decide +kernel` (kernel
evaluation of the executable model, without the elaborator's own, slower, evaluation before it; these are examples, not
property theorems). The state reached has a definition, a binding with a deposit, a repeated context with a batch in
flight, a pending request, and — after the response — earnings; further blocks let the batch expire.
-/
namespace SM.NonVacuity
open Map

instance (s : State) (a : Addr) : Decidable (s.custody a) := by unfold State.custody; infer_instance
instance (s : State) (a : Addr) : Decidable (s.modAcct a) := by unfold State.modAcct; infer_instance
instance (s : State) (op : Op) : Decidable (WF s op) := by cases op <;> unfold WF <;> infer_instance

def wfAll : State → List Op → Bool
  | _, [] => true
  | s, op :: ops => decide (WF s op) && wfAll (step s op).1 ops

def runOps (s : State) (ops : List Op) : State := ops.foldl (fun s o => (step s o).1) s

/-- The run may carry more than the machine state along (a ghost, a counter): `st` reads the state off it. -/
theorem foldl_wfAll {α : Type} {st : α → State} {f : α → Op → α} {P : α → Prop}
    (hst : ∀ a o, st (f a o) = (step (st a) o).1) (hP : ∀ a o, P a → WF (st a) o → P (f a o)) :
    ∀ (ops : List Op) (a : α), P a → wfAll (st a) ops = true → P (ops.foldl f a) := by
  intro ops
  induction ops with
  | nil => intro a ha _; exact ha
  | cons op t ih =>
    intro a ha hw
    simp only [wfAll, Bool.and_eq_true, decide_eq_true_eq] at hw
    exact ih _ (hP a op ha hw.1) (by rw [hst]; exact hw.2)

theorem reachable_of_wfAll {cfg : Config} {p : Params} {h0 t0 : Int} :
    ∀ (ops : List Op) (s : State), Reachable cfg p h0 t0 s → wfAll s ops = true → Reachable cfg p h0 t0 (runOps s ops) :=
  foldl_wfAll (st := id) (P := Reachable cfg p h0 t0) (fun _ _ => rfl) fun _ op h hw => Reachable.step op h hw

def cfg0 : Config := { escrow := "e", deposit := "d", collector := "c", modules := ["oracle"], modsvc := none }
def p0 : Params :=
  { maxTimeout := 100, mult := 2, minDep := 10, tax := 100000000000000000, slash := 1000000000000000, complaint := 1, arbitration := 1 }
def text0 : PricingText := { price := "5stake", promT := [], promV := [] }
def r0 : ReqId := { ctx := ⟨7, 0⟩, batch := 1, height := 1, index := 0 }

def ops1 : List Op :=
  [.fund "o" 1000, .fund "u" 100, .define "svc" "o" true,
   .bind "svc" "p" "o" (some 100) (some text0) 1, .bind "svc" "q" "o" (some 100) (some text0) 1,
   .call ⟨7, 0⟩ "svc" ["p", "q"] "u" (some 10) 2 false true 4 3 true, .endblock 5]

def ops2 : List Op := ops1 ++ [.respond r0 "p" 200 .valid]

def s1 : State := runOps (genesis cfg0 p0 1 0) ops1
def s2 : State := runOps (genesis cfg0 p0 1 0) ops2

theorem cfg0_ok : CfgOK cfg0 p0 := by constructor <;> decide

theorem s1_reachable : Reachable cfg0 p0 1 0 s1 := reachable_of_wfAll ops1 _ Reachable.init (by decide +kernel)
theorem s2_reachable : Reachable cfg0 p0 1 0 s2 := reachable_of_wfAll ops2 _ Reachable.init (by decide +kernel)

/-- the states are not trivial: two pending requests of a running batch, escrow holding their fees; then one
    answered, earnings recorded for the provider and its owner -/
example : s1.activeI.length = 2 ∧ balOf s1.bank.bal "e" = 10 ∧ s1.reqs.length = 2 ∧ s1.expQ.length = 1 := by decide +kernel
example : s2.activeI.length = 1 ∧ s2.resps.length = 1 ∧ get s2.earned "p" = some 5 ∧ get s2.ownerEarned "o" = some 5 ∧
    balOf s2.bank.bal "e" = 10 := by decide +kernel

/-- C01 / C13 / C16 … : the invariant holds there (instance of `reachable_inv`) -/
example : Inv s2 := reachable_inv cfg0_ok s2_reachable

/-- C19: the side hypothesis `hprov` of `prep_spec` is met, the preparation runs, and the escrow ends empty -/
example : (∀ a, (get s2.earned a).isSome → a ≠ s2.cfg.escrow) := by
  intro a h e; rw [e] at h; revert h; decide +kernel
example : (prep s2).panic = none ∧ balOf (prep s2).s.bank.bal "e" = 0 := by decide +kernel

/-- C19: an exported genesis that is valid (after the preparation) does exist -/
example : validateG (exportG (prep s2).s) = true := by decide +kernel

/-- C17: the listing theorems speak about non-empty answers -/
example : ∃ l, query s2 (.requests "svc" "q") = .ok (.requests l) ∧ l.length = 1 := ⟨_, rfl, by decide +kernel⟩
example : ∃ l, query s2 (.bindings "svc" "o") = .ok (.bindings l) ∧ l.length = 2 := ⟨_, rfl, by decide +kernel⟩

/-- C20: a message that does panic exists (D9), so `only_deposit_messages_can_panic` excludes something real -/
def hugeText : PricingText :=
  { price := "57896044618658097711785492504343953926634992332820282019728792003956564819967stake", promT := [], promV := [] }
set_option maxRecDepth 8000 in
example : (step s2 (.bind "svc" "z" "o" (some 100) (some hugeText) 1)).2.1.isPanic = true := by decide +kernel

/-- C08 / C02: a second response to the answered request is rejected, the first one was accepted -/
example : (step s1 (.respond r0 "p" 200 .valid)).2.1 = .ok ∧ (step s2 (.respond r0 "p" 200 .valid)).2.1 ≠ .ok := by decide +kernel

/-- C10 / C11: four more blocks: the batch expires (the unanswered request is refunded and its provider slashed),
    the next batch is issued at height 1 + frequency -/
def s3 : State := runOps s2 [.endblock 5, .endblock 5, .endblock 5, .endblock 5]
example : Reachable cfg0 p0 1 0 s3 := reachable_of_wfAll _ _ s2_reachable (by decide +kernel)
example : s3.height = 6 ∧ (get s3.ctxs ⟨7, 0⟩).map (·.batch) = some 2 ∧ s3.activeI.length = 2 := by decide +kernel

/-- C10, ghosted run: the observer of `Proofs/Cadence.lean` along the same history -/
def runG (sg : State × Ghost) (ops : List Op) : State × Ghost :=
  ops.foldl (fun sg o => ((step sg.1 o).1, gstep sg.2 sg.1 o)) sg

theorem greach_of_wfAll {cfg : Config} {p : Params} {h0 t0 : Int} :
    ∀ (ops : List Op) (s : State) (g : Ghost), GReach cfg p h0 t0 s g → wfAll s ops = true →
      GReach cfg p h0 t0 (runG (s, g) ops).1 (runG (s, g) ops).2 := fun ops s g =>
  foldl_wfAll (st := Prod.fst) (P := fun sg => GReach cfg p h0 t0 sg.1 sg.2) (fun _ _ => rfl)
    (fun _ op h hw => GReach.step op h hw) ops (s, g)

def sg3 : State × Ghost := runG (genesis cfg0 p0 1 0, Ghost.init) (ops2 ++ [.endblock 5, .endblock 5, .endblock 5, .endblock 5])

/-- two batches have started (heights 1 and 5 = 1 + frequency 4); the context is tracked with its latest start, the
    flag is down -/
theorem sg3_observed : GReach cfg0 p0 1 0 sg3.1 sg3.2 := greach_of_wfAll _ _ _ GReach.init (by decide +kernel)
example : GReach cfg0 p0 1 0 sg3.1 sg3.2 := sg3_observed
example : get sg3.2.last ⟨7, 0⟩ = some 5 ∧ sg3.2.bad = false ∧ (get sg3.1.ctxs ⟨7, 0⟩).map (·.batch) = some 2 := by decide +kernel

/-- the flag is live: had the previous start been recorded as 2, the start at height 5 (frequency 4) raises it; and a
    pause drops the record -/
def sgBefore : State × Ghost := runG (genesis cfg0 p0 1 0, Ghost.init) (ops2 ++ [.endblock 5, .endblock 5, .endblock 5])
example : sgBefore.1.height = 5 ∧ get sgBefore.2.last ⟨7, 0⟩ = some 1 := by decide +kernel
example : (gstep ⟨[(⟨7, 0⟩, 2)], false⟩ sgBefore.1 (.endblock 5)).bad = true := by decide +kernel
example : get (gstep sgBefore.2 sgBefore.1 (.pause ⟨7, 0⟩ "u")).last ⟨7, 0⟩ = none := by decide +kernel

/-- C12, counted run: a context created by the module `oracle`; its batch is answered, the callback is invoked once -/
def runC (sn : State × (CtxId → Nat)) (ops : List Op) : State × (CtxId → Nat) :=
  ops.foldl (fun sn o => ((step sn.1 o).1, fun c => sn.2 c + cbCount c (step sn.1 o).2.2)) sn

theorem creach_of_wfAll {cfg : Config} {p : Params} {h0 t0 : Int} :
    ∀ (ops : List Op) (s : State) (n : CtxId → Nat), CReach cfg p h0 t0 s n → wfAll s ops = true →
      CReach cfg p h0 t0 (runC (s, n) ops).1 (runC (s, n) ops).2 := fun ops s n =>
  foldl_wfAll (st := Prod.fst) (P := fun sn => CReach cfg p h0 t0 sn.1 sn.2) (fun _ _ => rfl)
    (fun _ op h hw => CReach.step op h hw) ops (s, n)

def opsM : List Op :=
  [.fund "o" 1000, .fund "u" 100, .define "svc" "o" true, .bind "svc" "p" "o" (some 100) (some text0) 1,
   .modcreate ⟨8, 0⟩ "oracle" "svc" ["p"] "u" (some 10) 2 false true 4 3 true true 1, .endblock 5]
def rM : ReqId := { ctx := ⟨8, 0⟩, batch := 1, height := 1, index := 0 }
def snM1 : State × (CtxId → Nat) := runC (genesis cfg0 p0 1 0, fun _ => 0) opsM
def snM2 : State × (CtxId → Nat) := runC (genesis cfg0 p0 1 0, fun _ => 0) (opsM ++ [.respond rM "p" 200 .valid])

example : CReach cfg0 p0 1 0 snM2.1 snM2.2 := creach_of_wfAll _ _ _ CReach.init (by decide +kernel)
example : (get snM1.1.ctxs ⟨8, 0⟩).map (fun x => (x.batch, x.bstate)) = some (1, .running) ∧ snM1.2 ⟨8, 0⟩ = 0 := by decide +kernel
example : (get snM2.1.ctxs ⟨8, 0⟩).map (fun x => (x.batch, x.bstate)) = some (1, .completed) ∧ snM2.2 ⟨8, 0⟩ = 1 := by decide +kernel

/-! ### C19, the restarted chain: from `s2` (a pending request, earnings, a running context) the restart succeeds,
the context comes back paused with an empty escrow, and the chain goes on: the consumer starts the context again and
the next block issues a fresh batch (two paid requests held by the escrow) -/
def sR : State := (restart s2 1 0).getD s2
def opsR : List Op := [.start ⟨7, 0⟩ "u", .endblock 5]
theorem getD_of_isSome {α : Type} {o : Option α} {d : α} (h : o.isSome = true) : o = some (o.getD d) := by
  cases o with
  | none => cases h
  | some _ => rfl
theorem sR_is_restart : restart s2 1 0 = some sR := getD_of_isSome (by decide +kernel)
example : balOf sR.bank.bal "e" = 0 ∧ balOf sR.bank.bal "d" = 200 ∧ sR.reqs.length = 0 ∧ sR.earned.length = 0 ∧
    (get sR.ctxs ⟨7, 0⟩).map (fun x => (x.state, x.bstate, x.batch)) = some (.paused, .completed, 1) := by decide +kernel
theorem sR2_reachableFrom : ∀ (ops : List Op) (s : State), ReachableFrom sR s → wfAll s ops = true →
    ReachableFrom sR (runOps s ops) :=
  foldl_wfAll (st := id) (P := ReachableFrom sR) (fun _ _ => rfl) fun _ op h hw => ReachableFrom.step op h hw
theorem opsR_wf : wfAll sR opsR = true := by decide +kernel
example : ReachableFrom sR (runOps sR opsR) := sR2_reachableFrom opsR sR ReachableFrom.init opsR_wf
example : (runOps sR opsR).activeI.length = 2 ∧ balOf (runOps sR opsR).bank.bal "e" = 10 ∧
    (get (runOps sR opsR).ctxs ⟨7, 0⟩).map (fun x => (x.state, x.bstate, x.batch)) = some (.running, .running, 2) := by decide +kernel
example : Inv (runOps sR opsR) :=
  (C19.restarted_chain_stays_backed cfg0_ok s2_reachable 1 0 sR_is_restart
    (sR2_reachableFrom opsR sR ReachableFrom.init opsR_wf)).1

/-- … and the same history as a `ReachableR` chain: `s2`, a restart, the context started again, a block, and a second
    restart — which succeeds, as `C19.chain_with_restarts_keeps_invariants` says it must -/
theorem sR_reachableR : ReachableR cfg0 p0 1 0 sR := ReachableR.restart 1 0 s2_reachable.toR sR_is_restart
example : (restart (runOps sR opsR) 7 0).isSome = true := by decide +kernel

/-- … and `ContinuesR` is inhabited by a chain that really restarts: from `s2` through the restart to `sR`; the
    binding of `s2` is read back with its deposit and owner, as `C15.stable_across_restarts` and
    `C19.restart_gives_back_the_same_records` say -/
theorem s2_continues_to_sR : ContinuesR (fun _ => True) s2 sR := ContinuesR.restart 1 0 ContinuesR.refl sR_is_restart
example : (get s2.bindings ("svc", "p")).isSome = true ∧ get sR.bindings ("svc", "p") = get s2.bindings ("svc", "p") ∧
    (get s2.owner "p").isSome = true ∧ get sR.owner "p" = get s2.owner "p" := by decide +kernel

/-- … and `LeadsR` (C02 / C04 over restarts) is inhabited by a continuation that restarts while requests are pending:
    `s2` holds pending requests; the chain is restarted, the context started again and a block ended — new requests are
    pending then, none of them one of the old ones (`C02.request_pending_at_restart_is_settled_for_good`) -/
theorem leadsR_of_ops : ∀ (ops : List Op) (s : State), wfAll s ops = true → LeadsR s (runOps s ops) := by
  intro ops
  induction ops with
  | nil => intro s _; exact LeadsR.refl s
  | cons op t ih =>
    intro s hw
    simp only [wfAll, Bool.and_eq_true, decide_eq_true_eq] at hw
    exact LeadsR.step op hw.1 (ih _ hw.2)
theorem s2_leadsR : LeadsR s2 (runOps sR opsR) := LeadsR.restart 1 0 sR_is_restart (leadsR_of_ops opsR sR opsR_wf)
example : s2.activeI.length = 1 ∧ (runOps sR opsR).activeI.length = 2 ∧
    (s2.activeI.all fun r => !(runOps sR opsR).activeI.contains r) = true := by decide +kernel

/-- C12 over restarts: the module context of `snM1` has batch 1 in flight; the chain is restarted there. The batch is
    counted as cancelled (`k = 1`), no callback was invoked (`n = 0`), the context comes back with batch counter 1 and
    its batch completed: 0 + 1 + 0 = 1, as `C12.callbacks_match_batches_across_restarts` says. -/
def sMR : State := (restart snM1.1 9 0).getD snM1.1
theorem sMR_is_restart : restart snM1.1 9 0 = some sMR := getD_of_isSome (by decide +kernel)
theorem creachR_of_wfAll {cfg : Config} {p : Params} {h0 t0 : Int} :
    ∀ (ops : List Op) (s : State) (n k : CtxId → Nat), CReachR cfg p h0 t0 s n k → wfAll s ops = true →
      CReachR cfg p h0 t0 (runC (s, n) ops).1 (runC (s, n) ops).2 k := fun ops s n k =>
  foldl_wfAll (st := Prod.fst) (P := fun sn => CReachR cfg p h0 t0 sn.1 sn.2 k) (fun _ _ => rfl)
    (fun _ op h hw => CReachR.step op h hw) ops (s, n)
theorem snM1_counted : CReachR cfg0 p0 1 0 snM1.1 snM1.2 (fun _ => 0) :=
  creachR_of_wfAll _ _ _ _ CReachR.init (by decide +kernel)
theorem sMR_counted : CReachR cfg0 p0 1 0 sMR snM1.2 (fun c => 0 + cancelled snM1.1 c) :=
  CReachR.restart 9 0 snM1_counted sMR_is_restart
example : cancelled snM1.1 ⟨8, 0⟩ = 1 ∧ snM1.2 ⟨8, 0⟩ = 0 ∧
    (get sMR.ctxs ⟨8, 0⟩).map (fun x => (x.batch, x.bstate, x.state)) = some (1, .completed, .paused) := by decide +kernel
/-- … and the chain goes on: the module starts its context again, batch 2 is issued and answered — one callback, one
    cancelled batch, two batches started -/
def opsMR : List Op := [.modstart ⟨8, 0⟩ "u", .endblock 5,
  .respond { ctx := ⟨8, 0⟩, batch := 2, height := 9, index := 0 } "p" 200 .valid]
def snMR2 : State × (CtxId → Nat) := runC (sMR, snM1.2) opsMR
example : CReachR cfg0 p0 1 0 snMR2.1 snMR2.2 (fun c => 0 + cancelled snM1.1 c) :=
  creachR_of_wfAll _ _ _ _ sMR_counted (by decide +kernel)
example : snMR2.2 ⟨8, 0⟩ = 1 ∧ (get snMR2.1.ctxs ⟨8, 0⟩).map (fun x => (x.batch, x.bstate)) = some (2, .completed) := by decide +kernel

/-- C10 over restarts: the observed chain `sg3` (two batches tracked) is restarted; the observer forgets the record, the
    flag stays down; the consumer starts the context again and the next batch is tracked anew -/
def sgR : State := (restart sg3.1 20 0).getD sg3.1
theorem sgR_is_restart : restart sg3.1 20 0 = some sgR := getD_of_isSome (by decide +kernel)
theorem greachR_of_wfAll {cfg : Config} {p : Params} {h0 t0 : Int} :
    ∀ (ops : List Op) (s : State) (g : Ghost), GReachR cfg p h0 t0 s g → wfAll s ops = true →
      GReachR cfg p h0 t0 (runG (s, g) ops).1 (runG (s, g) ops).2 := fun ops s g =>
  foldl_wfAll (st := Prod.fst) (P := fun sg => GReachR cfg p h0 t0 sg.1 sg.2) (fun _ _ => rfl)
    (fun _ op h hw => GReachR.step op h hw) ops (s, g)
theorem sgR_observed : GReachR cfg0 p0 1 0 sgR ⟨[], sg3.2.bad⟩ :=
  GReachR.restart 20 0 sg3_observed.toR sgR_is_restart
def sgR2 : State × Ghost := runG (sgR, ⟨[], sg3.2.bad⟩) [.start ⟨7, 0⟩ "u", .endblock 5]
example : GReachR cfg0 p0 1 0 sgR2.1 sgR2.2 := greachR_of_wfAll _ _ _ sgR_observed (by decide +kernel)
example : get sgR2.2.last ⟨7, 0⟩ = some 20 ∧ sgR2.2.bad = false ∧
    (get sgR2.1.ctxs ⟨7, 0⟩).map (·.batch) = some 3 := by decide +kernel

end SM.NonVacuity
