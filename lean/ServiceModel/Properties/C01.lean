import ServiceModel.Proofs.Reachable
import ServiceModel.Proofs.MonitorSound
import ServiceModel.Proofs.ModSvc
/-!
# C01 — Escrowed service fees are always exactly backed
-/
namespace SM.C01

/-- In every reachable state the escrow account holds exactly the fees of the pending requests plus
    the earnings not yet withdrawn. -/
theorem escrow_backed {cfg : Config} {p : Params} {h0 t0 : Int} (hc : CfgOK cfg p) {s : State}
    (hr : Reachable cfg p h0 t0 s) :
    s.bal s.cfg.escrow = activeFees s + earnedSum s := (reachable_inv hc hr).m.escrow_backed

/-- The per-step form: whatever a well-formed operation does to the escrow balance, it does to the
    obligations (pending fees + earnings): "never records an obligation without custody, never releases
    coins without extinguishing the obligation". -/
theorem escrow_delta {cfg : Config} {p : Params} {h0 t0 : Int} (hc : CfgOK cfg p) {s : State}
    (hr : Reachable cfg p h0 t0 s) (op : Op) (hw : WF s op) :
    ((step s op).1.bal (step s op).1.cfg.escrow : Int) - s.bal s.cfg.escrow =
      ((activeFees (step s op).1 + earnedSum (step s op).1 : Nat) : Int) - ((activeFees s + earnedSum s : Nat) : Int) := by
  rw [escrow_backed hc hr, escrow_backed hc (Reachable.step op hr hw)]

/-- The same at the granularity of the handlers inside the end of a block: each expired batch and each
    new batch leaves the escrow exactly backed. -/
theorem escrow_backed_after_expiry_handler (s : State) (c : CtxId) (h : Inv s) (hnp : (expireBatch s c).panic = none) :
    (expireBatch s c).s.bal (expireBatch s c).s.cfg.escrow =
      activeFees (expireBatch s c).s + earnedSum (expireBatch s c).s := (expireBatch_inv s c h).m.escrow_backed

theorem escrow_backed_after_new_batch_handler (s : State) (c : CtxId) (h : Inv s) :
    (newBatch s c).s.bal (newBatch s c).s.cfg.escrow = activeFees (newBatch s c).s + earnedSum (newBatch s c).s :=
  (newBatch_inv s c h).m.escrow_backed

/-- The executable monitor `escrowBacked`, which the check evaluates on every state decoded from the implementation's
    trace, is a decidable reading of this equation: it reports nothing on any reachable state of the model, so an
    alarm of it on an implementation state shows a state the model cannot reach. -/
theorem escrow_monitor_implied {cfg : Config} {p : Params} {h0 t0 : Int} (hc : CfgOK cfg p) {s : State}
    (hr : Reachable cfg p h0 t0 s) : Mon.escrowBacked s = [] := escrowBacked_sound (reachable_inv hc hr)

/-- The module-service branch (`handler.go`, `keeper/module_service.go`; model `callMod`, outside `step`): from every
    reachable state, a module-service call by an ordinary account — accepted or rejected, whatever the module
    answers — leaves the escrow exactly backed. One step only: the records this branch leaves behind break the
    invocation-world invariants (DESIGN.md §10.10), so histories that continue after such a call are covered by the
    correspondence run and the monitors, not by `escrow_backed`. -/
theorem escrow_backed_after_module_service_call {cfg : Config} {p : Params} {h0 t0 : Int} (hc : CfgOK cfg p) {s : State}
    (hr : Reachable cfg p h0 t0 s) (id : CtxId) (svc : SvcName) (prov cons : Addr) (cap : Option Nat) (inputOk : Bool)
    (code : Nat) (out : OutKind) (hcons : ¬ s.modAcct cons) (hfresh : id ∉ s.usedIds) :
    (callMod s id svc prov cons cap inputOk code out).1.bal (callMod s id svc prov cons cap inputOk code out).1.cfg.escrow =
      activeFees (callMod s id svc prov cons cap inputOk code out).1 + earnedSum (callMod s id svc prov cons cap inputOk code out).1 :=
  (callMod_invM s id svc prov cons cap inputOk code out (reachable_inv hc hr) hcons hfresh).escrow_backed

/-- … and the keeper-level binding by which the application gives its module service a provider (`modBind`:
    `Keeper.AddServiceBinding` without the handler's reservation check) keeps **every** invariant, the backing
    equation among them: from every reachable state, accepted or rejected. -/
theorem escrow_backed_after_module_binding {cfg : Config} {p : Params} {h0 t0 : Int} (hc : CfgOK cfg p) {s : State}
    (hr : Reachable cfg p h0 t0 s) (svc : SvcName) (pv o : Addr) (dep : Option Nat) (text : PricingText) (qos : Nat)
    (ho : ¬ s.modAcct o) :
    Inv (modBind s svc pv o dep text qos).1 ∧
    (modBind s svc pv o dep text qos).1.bal (modBind s svc pv o dep text qos).1.cfg.escrow =
      activeFees (modBind s svc pv o dep text qos).1 + earnedSum (modBind s svc pv o dep text qos).1 := by
  have h := modBind_inv s svc pv o dep text qos (reachable_inv hc hr) ho
  exact ⟨h, h.m.escrow_backed⟩

end SM.C01
