import ServiceModel.Proofs.NoPanic
import ServiceModel.Proofs.NoPanicMsg
import ServiceModel.Properties.C08
/-!
# C20 — Block processing is deterministic and cannot crash the chain

The model is a pure function of (state, operation), so two executions of one history agree by
construction; that the *code* is such a function (no dependence on process, map iteration order or
time) is established on the code itself: every history of the correspondence run is executed a second
time in a separate process and the full store dumps and balances are compared byte for byte.

What is proved here is the no-panic part, for every reachable state:
* the end of a block never panics;
* no message or keeper call other than bind / update-binding / enable-binding makes the handler panic;
* those three panic exactly when checked `sdk.Int` arithmetic meets an amount of about 2^255 — the
  known finding D9 (baseapp recovers the panic; the state is unchanged).
-/
namespace SM.C20
open Map

variable {cfg : Config} {p : Params} {h0 t0 : Int}

/-- End-of-block processing never panics in a reachable state. -/
theorem endblock_never_panics (hc : CfgOK cfg p) {s : State} (hr : Reachable cfg p h0 t0 s) (dt : Int) :
    (endBlock s dt).panic = none := endBlock_nopanic (reachable_inv hc hr) dt

/-- … hence the end-of-block step always succeeds. -/
theorem endblock_step_ok (hc : CfgOK cfg p) {s : State} (hr : Reachable cfg p h0 t0 s) (dt : Int) :
    (step s (.endblock dt)).2.1 = .ok :=
  congrArg (·.2.1) (step_endblock_ok (reachable_inv hc hr) dt)

/-- No message that passes stateless validation, and no keeper entry point, makes the handler panic — except the
    three deposit-carrying binding messages characterised below. -/
theorem only_deposit_messages_can_panic (hc : CfgOK cfg p) {s : State} (hr : Reachable cfg p h0 t0 s) (op : Op)
    (hw : WF s op) (hne : op.isEndblock = false) (hnd : op.isDepositMsg = false) :
    (step s op).2.1.isPanic = false := by
  cases hv : validateBasic op with
  | false => rw [step_invalid hv]; rfl
  | true =>
    have h := exec_nopanic (reachable_inv hc hr) op hw hne hnd
    rw [step_msg_eq hv hne]
    generalize (exec s op).2.1 = r at h ⊢
    cases r <;> exact h

theorem minDeposit_none_iff (params : Params) (pr : Pricing) :
    minDeposit params pr = none ↔ pr.base * params.mult ≥ intLimit := by
  unfold minDeposit
  dsimp only
  split
  · exact ⟨fun _ => ‹_›, fun _ => rfl⟩
  · exact ⟨nofun, fun h => absurd h ‹_›⟩

/-- D9, bind: the handler panics only if the price text denotes an amount beyond 255 bits, or price × multiple does. -/
theorem bind_panics_only_on_overflow (s : State) (svc : SvcName) (pv o : Addr) (dep : Option Nat) (text : PricingText)
    (qos : Nat) (hp : (bind s svc pv o dep text qos).2.1.isPanic = true) :
    parsePricing text = .overflow ∨ ∃ pr, parsePricing text = .ok pr ∧ pr.base * s.params.mult ≥ intLimit := by
  obtain ⟨m, hm⟩ := Res.isPanic_iff.mp hp
  cases (bind_msg (s := s) rfl).panics hm with
  | bindParse hpr => exact .inl hpr
  | bindMin hpr hmd => exact .inr ⟨_, hpr, (minDeposit_none_iff _ _).mp hmd⟩

/-- D9, enable: the handler panics only if deposit + top-up reaches 2^255, or the stored price × multiple does. -/
theorem enable_panics_only_on_overflow (s : State) (svc : SvcName) (pv o : Addr) (dep : Option Nat)
    (hp : (enable s svc pv o dep).2.1.isPanic = true) :
    ∃ b, get s.bindings (svc, pv) = some b ∧
      ((dep.isSome ∧ b.deposit + dep.getD 0 ≥ intLimit) ∨ (storedPricing s svc pv).base * s.params.mult ≥ intLimit) := by
  obtain ⟨m, hm⟩ := Res.isPanic_iff.mp hp
  cases (enable_msg (s := s) rfl).panics hm with
  | enableSum hb hov => exact ⟨_, hb, .inl hov⟩
  | enableMin hb hmd => exact ⟨_, hb, .inr ((minDeposit_none_iff _ _).mp hmd)⟩

/-- D9, update: the handler panics only if deposit + top-up reaches 2^255, the new price text denotes an amount beyond
    255 bits, or the price in force × multiple reaches 2^255. -/
theorem update_panics_only_on_overflow (s : State) (svc : SvcName) (pv o : Addr) (dep : Option Nat)
    (text : Option PricingText) (qos : Nat) (hp : (update s svc pv o dep text qos).2.1.isPanic = true) :
    ∃ b, get s.bindings (svc, pv) = some b ∧
      ((dep.isSome ∧ b.deposit + dep.getD 0 ≥ intLimit) ∨
       (∃ t, text = some t ∧ parsePricing t = .overflow) ∨
       (∃ pr, newTerms s svc pv text = .ok pr ∧ pr.base * s.params.mult ≥ intLimit)) := by
  obtain ⟨m, hm⟩ := Res.isPanic_iff.mp hp
  cases (update_msg (s := s) rfl).panics hm with
  | updateSum hb hov => exact ⟨_, hb, .inl hov⟩
  | updateTerms hb hpr => exact ⟨_, hb, .inr (.inl ⟨_, rfl, hpr⟩)⟩
  | updateMin hb hpr hmd => exact ⟨_, hb, .inr (.inr ⟨_, hpr, (minDeposit_none_iff _ _).mp hmd⟩)⟩

/-- A message whose handler panics leaves no trace: baseapp recovers the panic and discards the cached writes. -/
theorem panic_changes_nothing (s : State) (op : Op) (hne : op.isEndblock = false)
    (hp : (step s op).2.1.isPanic = true) : (step s op).1 = s :=
  C08.rejected_changes_nothing s op hne fun hok => by rw [hok] at hp; cases hp

end SM.C20
