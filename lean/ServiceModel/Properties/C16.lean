import ServiceModel.Proofs.Reachable
import ServiceModel.Proofs.Finished
import ServiceModel.Proofs.Restart
import ServiceModel.Proofs.MonitorSound
/-!
# C16 — Finished batches and contexts leave nothing behind
-/
namespace SM.C16

variable {cfg : Config} {p : Params} {h0 t0 : Int}

/-- No orphans: every request record belongs to the current batch of an existing context (with its expiry pending). -/
theorem no_orphan_requests (hc : CfgOK cfg p) {s : State} (hr : Reachable cfg p h0 t0 s) (r : ReqId) (q : Req)
    (hq : Map.get s.reqs r = some q) :
    ∃ x, Map.get s.ctxs r.ctx = some x ∧ r.batch = x.batch ∧ Map.get s.expH r.ctx = some q.expH :=
  (reachable_inv hc hr).x.reqCtx r q hq

/-- No response without its request; an answered request is not pending. -/
theorem no_orphan_responses (hc : CfgOK cfg p) {s : State} (hr : Reachable cfg p h0 t0 s) (r : ReqId)
    (hp : (Map.get s.resps r).isSome) : (Map.get s.reqs r).isSome ∧ r ∉ s.activeI :=
  (reachable_inv hc hr).x.respReq r hp

/-- No pending-request marker without its request. -/
theorem no_orphan_markers (hc : CfgOK cfg p) {s : State} (hr : Reachable cfg p h0 t0 s) (r : ReqId)
    (ha : r ∈ s.activeI) : (Map.get s.reqs r).isSome :=
  (reachable_inv hc hr).x.activeReq r ha

/-- The two pending-request indexes list the same requests (and the binding index carries the request's own data). -/
theorem indexes_agree (hc : CfgOK cfg p) {s : State} (hr : Reachable cfg p h0 t0 s) (svc : SvcName) (pv : Addr) (e : Int) (r : ReqId) :
    (svc, pv, e, r) ∈ s.activeB ↔
      (r ∈ s.activeI ∧ ∃ q x, Map.get s.reqs r = some q ∧ Map.get s.ctxs r.ctx = some x ∧ svc = x.svc ∧ pv = q.prov ∧ e = q.expH) :=
  (reachable_inv hc hr).x.activeMirror svc pv e r

/-- Clean-up law: after the expiry handler of a batch, no request, response or marker of that context is left. -/
theorem expiry_cleans {s : State} (h : Inv s) (c : CtxId) (hq : (s.height, c) ∈ s.expQ) (hnp : (expireBatch s c).panic = none) :
    (∀ r, r.ctx = c → Map.get (expireBatch s c).s.reqs r = none) ∧
    (∀ r, r.ctx = c → r ∉ (expireBatch s c).s.activeI) := by
  have hx := (expireBatch_inv s c h).x
  have hp := (expireBatch_ptrs s c h).2 c
  rw [if_pos ⟨rfl, hq⟩] at hp
  -- the handler has removed the expiry pointer of `c`, which every request record of `c` needs
  have hnoreq : ∀ r, r.ctx = c → Map.get (expireBatch s c).s.reqs r = none := fun r hrc =>
    Option.eq_none_iff_forall_ne_some.mpr fun q hg => by
      obtain ⟨_, _, _, he⟩ := hx.reqCtx r q hg
      rw [hrc, hp] at he; cases he
  exact ⟨hnoreq, fun r hrc ha => by have := hx.activeReq r ha; rw [hnoreq r hrc] at this; cases this⟩

/-- A context that has finished — killed, or running but one-shot, or running with its total reached — is removed
    by the expiry handler of its batch (together with the batch's records, `expiry_cleans`); any other context (paused,
    or running and repeated with batches to come) stays, with the same state and counter and its batch completed. -/
theorem finished_context_removed_with_its_batch (hc : CfgOK cfg p) {s : State} (hr : Reachable cfg p h0 t0 s)
    (c : CtxId) (x : Ctx) (hq : (s.height, c) ∈ s.expQ) (hx : Map.get s.ctxs c = some x) :
    (x.finished → Map.get (expireBatch s c).s.ctxs c = none) ∧
    (¬ x.finished → ∃ y, Map.get (expireBatch s c).s.ctxs c = some y ∧ y.bstate = .completed ∧ y.state = x.state ∧
      y.batch = x.batch) :=
  expireBatch_ctx_fate s c x hq hx (expireBatch_nopanic (reachable_inv hc hr) c)

/-- No orphans in any state of a chain that goes through any number of zero-height restarts (the import starts with no
    request, response or marker at all): every request record belongs to the current batch of an existing context, every
    response has its request, every marker its request, and the two pending-request indexes list the same requests. -/
theorem no_orphans_across_restarts (hc : CfgOK cfg p) {s : State} (hr : ReachableR cfg p h0 t0 s) :
    (∀ r q, Map.get s.reqs r = some q →
      ∃ x, Map.get s.ctxs r.ctx = some x ∧ r.batch = x.batch ∧ Map.get s.expH r.ctx = some q.expH) ∧
    (∀ r, (Map.get s.resps r).isSome → (Map.get s.reqs r).isSome ∧ r ∉ s.activeI) ∧
    (∀ r, r ∈ s.activeI → (Map.get s.reqs r).isSome) ∧
    (∀ svc pv e r, (svc, pv, e, r) ∈ s.activeB ↔
      (r ∈ s.activeI ∧ ∃ q x, Map.get s.reqs r = some q ∧ Map.get s.ctxs r.ctx = some x ∧ svc = x.svc ∧ pv = q.prov ∧ e = q.expH)) :=
  let h := (reachableR_invAll hc hr).inv.x
  ⟨h.reqCtx, h.respReq, h.activeReq, h.activeMirror⟩

/-- The executable monitor `requests` (no orphan request, response or marker; the two pending-request indexes agree),
    evaluated by the check on every state decoded from the implementation's trace, is implied by the invariants on every
    chain with any number of restarts. -/
theorem orphan_monitor_implied (hc : CfgOK cfg p) {s : State} (hr : ReachableR cfg p h0 t0 s) :
    Mon.requests s = [] := (scheduling_monitors_quiet_on_chains_with_restarts hc hr).2

end SM.C16
