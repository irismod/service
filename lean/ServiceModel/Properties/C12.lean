import ServiceModel.Proofs.Reachable
import ServiceModel.Proofs.Settle
import ServiceModel.Proofs.NoSlash
import ServiceModel.Proofs.CountEq
import ServiceModel.Proofs.CbCount
import ServiceModel.Proofs.OnceRestart
import ServiceModel.Proofs.GhostRestart
/-!
# C12 — Batch bookkeeping and module callbacks are exact (state part)
-/
namespace SM.C12

variable {cfg : Config} {p : Params} {h0 t0 : Int}

/-- A batch is marked running only while its expiry is pending (so it is completed at the latest when its
    expiry block ends, and a context without a batch in flight has its batch marked completed). -/
theorem running_batch_has_pending_expiry (hc : CfgOK cfg p) {s : State} (hr : Reachable cfg p h0 t0 s)
    (c : CtxId) (x : Ctx) (hx : Map.get s.ctxs c = some x) (hb : x.bstate = .running) : (Map.get s.expH c).isSome :=
  (reachable_inv hc hr).x.bRunExp c x hx hb

/-- Pending requests belong to a batch that is still running: a batch is never marked completed while one of its
    requests is still pending ("never earlier"). -/
theorem pending_implies_batch_running (hc : CfgOK cfg p) {s : State} (hr : Reachable cfg p h0 t0 s) (r : ReqId) (ha : r ∈ s.activeI) :
    ∃ x, Map.get s.ctxs r.ctx = some x ∧ x.bstate = .running := (reachable_inv hc hr).x.activeRunning r ha

/-- For the batch in flight, pending + answered never exceeds issued; hence the response that makes the
    response count reach the request count answers the last pending request. -/
theorem pending_plus_answered_le_issued (hc : CfgOK cfg p) {s : State} (hr : Reachable cfg p h0 t0 s)
    (c : CtxId) (x : Ctx) (hx : Map.get s.ctxs c = some x) (hb : x.bstate = .running) :
    (s.activeI.filter (fun r => r.ctx = c)).length + x.respN ≤ x.reqN := (reachable_inv hc hr).x.counts c x hx hb

/-- Between operations the counters of the batch in flight are exact: pending + answered = issued. Every request of
    the batch is either still pending or has been answered (and counted) — none is lost or counted twice —
    so the batch is completed by responses exactly when the last pending request is answered. -/
theorem pending_plus_answered_eq_issued (hc : CfgOK cfg p) {s : State} (hr : Reachable cfg p h0 t0 s)
    (c : CtxId) (x : Ctx) (hx : Map.get s.ctxs c = some x) (hb : x.bstate = .running) :
    (s.activeI.filter (fun r => r.ctx = c)).length + x.respN = x.reqN := ceq_reachable hc hr c x hx hb

/-- Hence a batch that is still marked running has a pending request unless nothing at all was issued for it
    (a skipped batch): "marked completed as soon as all of its (one or more) requests have been answered". -/
theorem running_batch_with_requests_has_pending (hc : CfgOK cfg p) {s : State} (hr : Reachable cfg p h0 t0 s)
    (c : CtxId) (x : Ctx) (hx : Map.get s.ctxs c = some x) (hb : x.bstate = .running) (hlt : x.respN < x.reqN) :
    ∃ r, r ∈ s.activeI ∧ r.ctx = c := by
  have h := pending_plus_answered_eq_issued hc hr c x hx hb
  obtain ⟨r, hmem⟩ := List.exists_mem_of_length_pos (by omega : 0 < (s.activeI.filter (fun r => r.ctx = c)).length)
  exact ⟨r, (List.mem_filter.mp hmem).1, of_decide_eq_true (List.mem_filter.mp hmem).2⟩

/-- The response callback of a module context gets exactly the non-empty outputs of the batch's responses and an
    error flag iff fewer outputs than the batch threshold arrived (definition of `completeBatch`, the only place
    that emits the callback). -/
theorem callback_args (s : State) (c : CtxId) (x st : Ctx) (hm : x.mod ≠ "") (hst : Map.get s.ctxs c = some st) :
    (completeBatch s c x).2 =
      [.respcb c (batchOutputs s c st.batch) (decide ((batchOutputs s c st.batch).length < st.bthr)), .ev "complete_batch" c] := by
  unfold completeBatch
  simp only [if_pos hm, hst]
  rfl

/-- Contexts created by a message get no callback. -/
theorem no_callback_for_message_contexts (s : State) (c : CtxId) (x : Ctx) (hm : x.mod = "") :
    (completeBatch s c x).2 = [.ev "complete_batch" c] := by
  unfold completeBatch
  simp only [if_neg (not_not_intro hm)]
  rfl

/-- Completion marks the batch completed (whatever the context) and emits the completion event; for a module
    context exactly one callback precedes it, for a message context none. -/
theorem completion_marks_completed (s : State) (c : CtxId) (x : Ctx) :
    (completeBatch s c x).1.bstate = .completed ∧
    (∃ cb, (completeBatch s c x).2 = cb ++ [.ev "complete_batch" c] ∧
      ((x.mod ≠ "" → ∃ outs f, cb = [.respcb c outs f]) ∧ (x.mod = "" → cb = []))) := by
  unfold completeBatch
  refine ⟨rfl, _, rfl, fun hm => ?_, fun hm => if_neg (not_not_intro hm)⟩
  rw [if_pos hm]
  split <;> exact ⟨_, _, rfl⟩

theorem completion_event (s : State) (c : CtxId) (x : Ctx) : .ev "complete_batch" c ∈ (completeBatch s c x).2 := by
  obtain ⟨_, h, -⟩ := (completion_marks_completed s c x).2
  rw [h]
  exact List.mem_append_right _ (List.mem_singleton_self _)

/-- An accepted response completes the batch exactly when it brings the response count to the request count
    ("as soon as all of its requests have been answered"), and otherwise leaves the batch state alone; in both
    cases the response count goes up by exactly one and the request count is unchanged. -/
theorem accepted_response_counts (s : State) (r : ReqId) (pv : Addr) (code : Nat) (out : OutKind) (x : Ctx)
    (hx : Map.get s.ctxs r.ctx = some x) (hok : (respond s r pv code out).2.1 = .ok) :
    ∃ x', Map.get (respond s r pv code out).1.ctxs r.ctx = some x' ∧ x'.respN = x.respN + 1 ∧ x'.reqN = x.reqN ∧
      x'.batch = x.batch ∧
      (x.respN + 1 = x.reqN → x'.bstate = .completed ∧ .ev "complete_batch" r.ctx ∈ (respond s r pv code out).2.2) ∧
      (x.respN + 1 ≠ x.reqN → x'.bstate = x.bstate ∧ .ev "complete_batch" r.ctx ∉ (respond s r pv code out).2.2) := by
  obtain ⟨_, x', e1, h⟩ := respond_accepted hok
  cases hx.symm.trans h.ctx
  have he1 := h.money
  rw [h.effs, h.ctxs]
  -- the settlement emits no event; the completion, if this was the last response, does
  have hcb : .ev "complete_batch" r.ctx ∉ e1 := fun hm => nomatch he1 _ hm
  by_cases hc : x.respN + 1 = x.reqN
  · simp only [answered, lastEffs, if_pos hc]
    exact ⟨_, Map.get_set_same _ _ _, rfl, rfl, rfl,
      fun _ => ⟨rfl, List.mem_append_right _ (completion_event _ _ _)⟩, fun hne => absurd hc hne⟩
  · simp only [answered, lastEffs, if_neg hc, List.append_nil]
    exact ⟨_, Map.get_set_same _ _ _, rfl, rfl, rfl, fun h => absurd h hc, fun _ => ⟨rfl, hcb⟩⟩

/-- At expiry a batch is completed (event, and callback for a module context) exactly when it was not completed
    before — i.e. when its responses had not already completed it: "otherwise when its expiry block ends", and
    never a second time. -/
theorem expiry_completes_iff_not_yet_completed (s : State) (c : CtxId) (x : Ctx) :
    (.ev "complete_batch" c ∈ (expirePending s c x).1.effs ↔ x.bstate ≠ .completed) ∧
    (expirePending s c x).2.bstate = .completed := by
  unfold expirePending
  by_cases hb : x.bstate = .completed
  · rw [if_neg (not_not_intro hb)]
    exact ⟨⟨nofun, fun h => absurd hb h⟩, hb⟩
  · rw [if_pos hb]
    exact ⟨⟨fun _ => hb, fun _ => List.mem_append_right _ (completion_event _ c x)⟩, rfl⟩

/-- … and when the batch had been completed by its responses, the expiry handler emits nothing for it. -/
theorem expiry_of_completed_batch_is_silent (s : State) (c : CtxId) (x : Ctx) (hb : x.bstate = .completed) :
    (expirePending s c x).1.effs = [] ∧ (expirePending s c x).1.s = s := by
  unfold expirePending
  rw [if_neg (not_not_intro hb)]
  exact ⟨rfl, rfl⟩

/-- The settlement of the expired requests themselves only moves or burns coins: the completion event and callback
    of the handler are the ones of `completeBatch`, emitted once. -/
theorem expiry_settlements_emit_no_events (s : State) (x : Ctx) (ids : List ReqId) :
    ∀ e ∈ (foldH (expireReq x) s ids).effs, e.isMoney = true :=
  foldH_effects (expireReq x) (fun e => e.isMoney = true) (expireReq_effects x) ids s

/-! ### the response callback, over whole histories

`CReach` runs the machine together with a counter per context of the response callbacks (`respcb` effects) invoked
for it so far (`Proofs/CbCount.lean`); the counter is an observer (`CReach.state_reachable`, `reachable_has_count`). -/

/-- Exactly once per batch, over every history: for a context created by a module, the number of response callbacks
    invoked so far, plus one if a batch is in flight, equals the number of batches started (issued or skipped).
    So every batch that has been completed got exactly one callback, a batch in flight has not had its callback
    yet, and no callback is ever invoked without a batch. -/
theorem callbacks_match_batches (hc : CfgOK cfg p) {s : State} {n : CtxId → Nat} (hr : CReach cfg p h0 t0 s n)
    (c : CtxId) (x : Ctx) (hx : Map.get s.ctxs c = some x) (hm : x.mod ≠ "") :
    n c + (if x.bstate = .running then 1 else 0) = x.batch := (cbok_reachable hc hr).2 c x hx hm

/-- No callback is ever invoked for a context id that was never created. -/
theorem no_callback_without_context (hc : CfgOK cfg p) {s : State} {n : CtxId → Nat} (hr : CReach cfg p h0 t0 s n)
    (c : CtxId) (hu : c ∉ s.usedIds) : n c = 0 := (cbok_reachable hc hr).1 c hu

/-- The counters are exact in every state of a chain that goes through any number of zero-height restarts as well (a
    restart leaves no batch running; the batches issued afterwards are counted like any other): pending + answered =
    issued for the batch in flight, a running batch has its expiry pending, and a pending request's batch is running. -/
theorem counters_exact_across_restarts (hc : CfgOK cfg p) {s : State} (hr : ReachableR cfg p h0 t0 s)
    (c : CtxId) (x : Ctx) (hx : Map.get s.ctxs c = some x) (hb : x.bstate = .running) :
    (s.activeI.filter (fun r => r.ctx = c)).length + x.respN = x.reqN ∧ (Map.get s.expH c).isSome :=
  ⟨ceq_reachableR hc hr c x hx hb, (reachableR_invAll hc hr).inv.x.bRunExp c x hx hb⟩

/-- "One callback per batch" over chains with any number of zero-height restarts. The chain is run with two observers:
    `n c`, the response callbacks invoked so far for context `c`, and `k c`, the batches of `c` that were in flight at a
    restart (`cancelled`: the preparation refunds their requests and marks the batch completed without a callback).
    For every context created by a module: callbacks + batches cancelled by a restart + (1 if a batch is in flight) =
    batches started. So on a chain with restarts too every completed batch got exactly one callback, except those a
    restart cancelled, which got none, and no callback is invoked without a batch. -/
theorem callbacks_match_batches_across_restarts (hc : CfgOK cfg p) {s : State} {n k : CtxId → Nat}
    (hr : CReachR cfg p h0 t0 s n k) (c : CtxId) (x : Ctx) (hx : Map.get s.ctxs c = some x) (hm : x.mod ≠ "") :
    n c + k c + (if x.bstate = .running then 1 else 0) = x.batch := (cbokR_reachableR hc hr).2 c x hx hm

/-- … no callback and no cancellation for a context id that was never created. -/
theorem no_callback_without_context_across_restarts (hc : CfgOK cfg p) {s : State} {n k : CtxId → Nat}
    (hr : CReachR cfg p h0 t0 s n k) (c : CtxId) (hu : c ∉ s.usedIds) : n c = 0 ∧ k c = 0 :=
  (cbokR_reachableR hc hr).1 c hu

/-- Every state of a chain with restarts is observed; without a restart nothing is ever counted as cancelled. -/
theorem every_chain_with_restarts_is_counted {s : State} (hr : ReachableR cfg p h0 t0 s) :
    ∃ n k, CReachR cfg p h0 t0 s n k := reachableR_has_count hr

end SM.C12
