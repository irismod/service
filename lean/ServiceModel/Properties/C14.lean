import ServiceModel.Proofs.ModSvc
import ServiceModel.Proofs.MonitorSound
/-!
# C14 — An available binding always holds the minimum deposit for its price
-/
namespace SM.C14

variable {cfg : Config} {p : Params} {h0 t0 : Int}

/-- the minimum deposit for a base price: the larger of the global minimum and price × multiple -/
theorem minDeposit_eq_max (params : Params) (pr : Pricing) (md : Nat) (h : minDeposit params pr = some md) :
    md = max params.minDep (pr.base * params.mult) := by
  unfold minDeposit at h
  dsimp only at h
  split at h
  · cases h
  · cases h
    split <;> omega

theorem holds_minimum {s : State} (hB : InvB s) (k : SvcName × Addr) (b : Binding) (hb : Map.get s.bindings k = some b) :
    ∃ pr, Map.get s.pricing k = some pr ∧ parsePricing b.text = .ok pr ∧
      (b.avail = true → max s.params.minDep (pr.base * s.params.mult) ≤ b.deposit) := by
  obtain ⟨pr, hpr, hparse, _⟩ := hB.priced k b hb
  refine ⟨pr, hpr, hparse, fun hav => ?_⟩
  obtain ⟨pr', md, hpr', hmd, hle⟩ := hB.minDep k b hb hav
  rw [hpr] at hpr'; cases hpr'
  rw [← minDeposit_eq_max _ _ _ hmd]; exact hle

/-- Whenever a binding is available its deposit is at least the larger of the global minimum deposit and
    its base price times the multiple (computed from the price terms stored for it, which are the parse of its
    published pricing text). -/
theorem available_holds_minimum (hc : CfgOK cfg p) {s : State} (hr : Reachable cfg p h0 t0 s)
    (k : SvcName × Addr) (b : Binding) (hb : Map.get s.bindings k = some b) (hav : b.avail = true) :
    ∃ pr, Map.get s.pricing k = some pr ∧ parsePricing b.text = .ok pr ∧
      max s.params.minDep (pr.base * s.params.mult) ≤ b.deposit := by
  obtain ⟨pr, h1, h2, h3⟩ := holds_minimum (reachable_inv hc hr).b k b hb
  exact ⟨pr, h1, h2, h3 hav⟩

/-- An accepted bind has a deposit of at least the minimum for its price. -/
theorem bind_ok_has_minimum (s : State) (svc : SvcName) (pv o : Addr) (dep : Option Nat) (text : PricingText) (qos : Nat)
    (h : (bind s svc pv o dep text qos).2.1 = .ok) :
    ∃ d pr md, dep = some d ∧ parsePricing text = .ok pr ∧ minDeposit s.params pr = some md ∧ md ≤ d := by
  obtain ⟨_, _, hm, _⟩ := (bind_msg rfl).ok h
  cases hm with
  | bind _ _ _ _ _ hpr _ hmd hd => exact ⟨_, _, _, rfl, hpr, hmd, hd⟩

/-- Binding is rejected when the deposit is below the minimum for the price. -/
theorem bind_rejected_below_minimum (s : State) (svc : SvcName) (pv o : Addr) (d : Nat) (text : PricingText) (qos : Nat)
    (pr : Pricing) (md : Nat) (hp : parsePricing text = .ok pr) (hmd : minDeposit s.params pr = some md) (hlt : d < md) :
    (bind s svc pv o (some d) text qos).2.1 ≠ .ok := by
  intro h
  obtain ⟨_, _, _, h1, h2, h3, h4⟩ := bind_ok_has_minimum s svc pv o (some d) text qos h
  cases h1
  rw [hp] at h2; cases h2
  rw [hmd] at h3; cases h3
  exact Nat.not_lt.mpr h4 hlt

/-- A slash that takes the deposit below the minimum makes the binding unavailable, with the block time as
    its disabling time; otherwise availability is unchanged. -/
theorem slash_disables_below_minimum {s s1 : State} {r : ReqId} {svc : SvcName} {pv : Addr} {e : List Effect} {b : Binding}
    (hb : Map.get s.bindings (svc, pv) = some b) (hav : b.avail = true) (h : slash s r svc pv = .done s1 e) :
    ∃ md b1, minDeposit s.params (storedPricing s svc pv) = some md ∧ Map.get s1.bindings (svc, pv) = some b1 ∧
      (b1.deposit < md → b1.avail = false ∧ b1.disabledAt = s.time) ∧ (md ≤ b1.deposit → b1.avail = true ∧ b1.disabledAt = b.disabledAt) := by
  cases Slash.of_done h with
  | unbound hn => rw [hb] at hn; cases hn
  | @burnt _ _ md hb' _ _ hmd =>
    rw [hb] at hb'; cases hb'
    refine ⟨md, _, hmd hav, Map.get_set_same _ _ _, ?_⟩
    rw [slashedB_avail hav]
    split
    · exact ⟨fun _ => ⟨rfl, rfl⟩, fun hge => absurd ‹_ < md› (Nat.not_lt.mpr hge)⟩
    · exact ⟨fun hlt => absurd hlt ‹_›, fun _ => ⟨hav, rfl⟩⟩
  | refused hr => rw [h] at hr; cases hr

/-- The same after a module-service call (`callMod`, outside `step`; one step from every reachable state): a malformed
    answer of the module slashes the module's own provider, and a binding left below its minimum is no longer
    available. -/
theorem available_holds_minimum_after_module_service_call (hc : CfgOK cfg p) {s : State} (hr : Reachable cfg p h0 t0 s)
    (id : CtxId) (svc : SvcName) (prov cons : Addr) (cap : Option Nat) (inputOk : Bool) (code : Nat) (out : OutKind)
    (hcons : ¬ s.modAcct cons)
    (k : SvcName × Addr) (b : Binding)
    (hb : Map.get (callMod s id svc prov cons cap inputOk code out).1.bindings k = some b) (hav : b.avail = true) :
    ∃ pr, Map.get (callMod s id svc prov cons cap inputOk code out).1.pricing k = some pr ∧ parsePricing b.text = .ok pr ∧
      max (callMod s id svc prov cons cap inputOk code out).1.params.minDep
        (pr.base * (callMod s id svc prov cons cap inputOk code out).1.params.mult) ≤ b.deposit := by
  obtain ⟨pr, h1, h2, h3⟩ :=
    holds_minimum (callMod_invB s id svc prov cons cap inputOk code out (reachable_inv hc hr) hcons) k b hb
  exact ⟨pr, h1, h2, h3 hav⟩

/-- The same in every state of a chain that goes through any number of zero-height restarts: the import rebuilds the
    price terms of every binding, available or not, so the minimum on the restarted chain is the minimum for the
    published price. -/
theorem available_holds_minimum_across_restarts (hc : CfgOK cfg p) {s : State} (hr : ReachableR cfg p h0 t0 s)
    (k : SvcName × Addr) (b : Binding) (hb : Map.get s.bindings k = some b) :
    (∃ pr, Map.get s.pricing k = some pr ∧ parsePricing b.text = .ok pr) ∧
    (b.avail = true → ∃ pr, Map.get s.pricing k = some pr ∧ parsePricing b.text = .ok pr ∧
      max s.params.minDep (pr.base * s.params.mult) ≤ b.deposit) := by
  obtain ⟨pr, h1, h2, h3⟩ := holds_minimum (reachableR_invAll hc hr).inv.b k b hb
  exact ⟨⟨pr, h1, h2⟩, fun hav => ⟨pr, h1, h2, h3 hav⟩⟩

/-- The executable monitor `minDep`, which the check evaluates on every state decoded from the implementation's trace
    (it recomputes the minimum from the *published text* of every available binding), reports nothing on any state of a
    chain of the model, restarts included. -/
theorem minimum_monitor_implied (hc : CfgOK cfg p) {s : State} (hr : ReachableR cfg p h0 t0 s) :
    Mon.minDep s = [] := minDep_monitor_quiet_on_chains_with_restarts hc hr

end SM.C14
