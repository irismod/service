import ServiceModel.Proofs.CtxEvol
import ServiceModel.Proofs.OnceRestart
/-!
# C09 — Request contexts follow their lifecycle state machine
-/
namespace SM.C09

variable {cfg : Config} {p : Params} {h0 t0 : Int}

/-- Pause moves only a repeated running context to paused. -/
theorem pause_transition (s : State) (c : CtxId) (cons : Addr) (h : (pauseK s c cons).2.1 = .ok) :
    ∃ x, Map.get s.ctxs c = some x ∧ x.rep = true ∧ x.state = .running ∧
      Map.get (pauseK s c cons).1.ctxs c = some { x with state := .paused } := by
  obtain ⟨_, _, hm, he⟩ := (modpause_msg rfl).ok h
  rw [he]
  cases hm with
  | modpause hx hrep hrun => exact ⟨_, hx, hrep, hrun, Map.get_set_same _ _ _⟩

/-- Start moves only a paused context to running. -/
theorem start_transition (s : State) (c : CtxId) (cons : Addr) (h : (startK s c cons).2.1 = .ok) :
    ∃ x, Map.get s.ctxs c = some x ∧ x.state = .paused ∧
      Map.get (startK s c cons).1.ctxs c = some { x with state := .running } := by
  obtain ⟨_, _, hm, he⟩ := (modstart_msg rfl).ok h
  rw [he]
  cases hm with
  | modstart hx hp => exact ⟨_, hx, hp, Map.get_set_same _ _ _⟩

/-- Kill moves only a repeated context to completed. -/
theorem kill_transition (s : State) (c : CtxId) (cons : Addr) (h : (killK s c cons).2.1 = .ok) :
    ∃ x, Map.get s.ctxs c = some x ∧ x.rep = true ∧
      Map.get (killK s c cons).1.ctxs c = some { x with state := .completed } := by
  obtain ⟨_, _, hm, he⟩ := (modkill_msg rfl).ok h
  rw [he]
  cases hm with
  | modkill hx hrep => exact ⟨_, hx, hrep, Map.get_set_same _ _ _⟩

/-- A completed context is never updated. -/
theorem completed_not_updated (s : State) (c : CtxId) (cons : Addr) (provs : List Addr) (thr : Nat) (cap : Option Nat)
    (timeout : Int) (freq : Nat) (total : Int) (x : Ctx) (hx : Map.get s.ctxs c = some x) (hc : x.state = .completed) :
    (updateK s c cons provs thr cap timeout freq total).2.1 ≠ .ok := by
  intro hok
  obtain ⟨_, _, hm, -⟩ := (modupdate_msg rfl).ok hok
  cases hm with
  | modupdate hx' hu => rw [hx] at hx'; cases hx'; exact hu.live hc

/-- A consumer's inability to pay a batch moves running to paused without advancing the counter and without issuing anything. -/
theorem unfunded_pause (s : State) (c : CtxId) (x : Ctx) (hsuper : x.super = false)
    (hel : (eligible s x).length > 0 ∧ (eligible s x).length ≥ x.thr)
    (hpoor : bankSend s.bank x.cons s.cfg.escrow (sumPrices (eligible s x)) = none) :
    (startOrSkip s c x).1 = setCtx s c { x with bstate := .completed, state := .paused } := by
  unfold startOrSkip
  rw [if_pos hel, if_neg (by simp [hsuper]), hpoor]

/-- Over any well-formed step, every context present afterwards either was created by this very step (its id was
    never used before) or evolved from the context with the same id: its service, consumer, super-mode flag, repeat
    flag and owning module are unchanged, its batch counter did not decrease, and `completed` is final. -/
theorem context_evolution (hc : CfgOK cfg p) {s : State} (hr : Reachable cfg p h0 t0 s) (op : Op) (hw : WF s op)
    (c : CtxId) (y : Ctx) (hy : Map.get (step s op).1.ctxs c = some y) :
    (∃ x, Map.get s.ctxs c = some x ∧ CtxEvol x y) ∨ c ∉ s.usedIds :=
  (step_ctx_origin op hw c y hy).imp id And.left

/-- What the consumer (or the owning module) set on a context — providers, fee cap, timeout, frequency, total and
    response threshold — is the same after any step as before it, unless the step is an update aimed at that very
    context (a consumer's `MsgUpdateRequestContext`, or the owning module's call). In particular neither another
    context's operations nor the end of a block touch them. -/
theorem consumer_set_fields_change_only_by_update {cfg : Config} {p : Params} {h0 t0 : Int} (hc : CfgOK cfg p)
    {s : State} (hr : Reachable cfg p h0 t0 s) (op : Op) (hw : WF s op) (c : CtxId) (x y : Ctx)
    (hx : Map.get s.ctxs c = some x) (hy : Map.get (step s op).1.ctxs c = some y) (hnu : op.updTarget ≠ some c) :
    y.provs = x.provs ∧ y.cap = x.cap ∧ y.timeout = x.timeout ∧ y.freq = x.freq ∧ y.total = x.total ∧ y.thr = x.thr :=
  step_params_stable (reachable_inv hc hr) op hw c x y hx hy hnu

/-- A zero-height restart loses no context and invents none, and changes nothing of a context but what the preparation
    resets: every context of the old chain comes back paused with its batch completed and the two counters of that
    batch at zero — service, providers, consumer, fee cap, timeout, super-mode and repeat flags, frequency, total,
    **batch counter**, thresholds and owning module are what they were. (A completed context is *not* final over a
    restart: the preparation pauses it like every other — `ResetRequestContextsStateAndBatch` makes no exception —, so
    "completed is final" is a statement about a chain between restarts; the harness shows the same on the code.) -/
theorem context_over_restart (hc : CfgOK cfg p) {s s' : State} (hr : ReachableR cfg p h0 t0 s) {height time : Int}
    (hre : restart s height time = some s') (c : CtxId) :
    Map.get s'.ctxs c = (Map.get s.ctxs c).map resetCtx ∧
    ∀ x : Ctx, (resetCtx x).svc = x.svc ∧ (resetCtx x).provs = x.provs ∧ (resetCtx x).cons = x.cons ∧
      (resetCtx x).cap = x.cap ∧ (resetCtx x).timeout = x.timeout ∧ (resetCtx x).super = x.super ∧
      (resetCtx x).rep = x.rep ∧ (resetCtx x).freq = x.freq ∧ (resetCtx x).total = x.total ∧
      (resetCtx x).batch = x.batch ∧ (resetCtx x).bthr = x.bthr ∧ (resetCtx x).thr = x.thr ∧ (resetCtx x).mod = x.mod ∧
      (resetCtx x).state = .paused ∧ (resetCtx x).bstate = .completed :=
  ⟨restart_ctxs (reachableR_invAll hc hr) hre c,
   fun _ => ⟨rfl, rfl, rfl, rfl, rfl, rfl, rfl, rfl, rfl, rfl, rfl, rfl, rfl, rfl, rfl⟩⟩

end SM.C09
