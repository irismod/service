import ServiceModel.Proofs.Reachable
import ServiceModel.Proofs.Frames
import ServiceModel.Proofs.RestartStable
import ServiceModel.Proofs.MonitorSound
/-!
# C13 — Earnings are accounted per provider and per owner and paid out exactly
-/
namespace SM.C13

variable {cfg : Config} {p : Params} {h0 t0 : Int}

/-- An owner's recorded earnings always equal the sum of the earnings of the providers it owns. -/
theorem owner_earnings_are_sum (hc : CfgOK cfg p) {s : State} (hr : Reachable cfg p h0 t0 s) (o : Addr) :
    balOf s.ownerEarned o = ownedEarned s o := (reachable_inv hc hr).m.ownerSum o

/-- Earnings are only ever recorded for providers that have an owner. -/
theorem earnings_have_owner (hc : CfgOK cfg p) {s : State} (hr : Reachable cfg p h0 t0 s) (pv : Addr)
    (h : (Map.get s.earned pv).isSome) : (Map.get s.owner pv).isSome := (reachable_inv hc hr).m.earnedOwned pv h

theorem withdraw_ok (s : State) (o pv : Addr) (h : (withdraw s o pv).2.1 = .ok) (amt : Nat)
    (hamt : amt = if pv = "" then balOf s.ownerEarned o else balOf s.earned pv) :
    (pv ≠ "" → Map.get s.owner pv = some o) ∧
    (withdraw s o pv).2.2 = (if amt = 0 then [] else [.transfer s.cfg.escrow ((Map.get s.withdraw o).getD o) amt]) ∧
    (∀ o2, balOf (withdraw s o pv).1.ownerEarned o2 =
      if o = o2 then balOf s.ownerEarned o - amt else balOf s.ownerEarned o2) ∧
    (withdraw s o pv).1.earned =
      if pv = "" then (providersOf s o).foldl (fun m p => Map.del m p) s.earned else Map.del s.earned pv := by
  obtain ⟨e, s', hm, he⟩ := (withdraw_msg (s := s) rfl).ok h
  rw [he]
  cases hm with | withdraw hown hrec hdst hb => ?_
  obtain ⟨-, h1, h0⟩ := withdrawRecords_ok hrec
  refine ⟨hown, ?_⟩
  by_cases hp : pv = ""
  · obtain ⟨rfl, hea, hoe⟩ := h0 hp
    rw [if_pos hp] at hamt ⊢
    subst hamt
    rw [hoe, Nat.sub_self]
    exact ⟨rfl, balOf_del _ _, hea⟩
  · obtain ⟨rfl, hea, hoe⟩ := h1 hp
    rw [if_neg hp] at hamt ⊢
    subst hamt
    refine ⟨rfl, ?_, hea⟩
    -- the model deletes the owner's record when the whole of it is withdrawn
    rcases hoe with ⟨hoe, heq⟩ | ⟨hoe, -⟩
    · rw [hoe, heq, Nat.sub_self]
      exact balOf_del _ _
    · rw [hoe]
      exact fun o2 => balOf_set _ _ o2 _

/-- Withdrawing for one provider: accepted only from its owner, pays exactly that provider's earnings to the
    owner's withdrawal address (the owner itself unless it has set another), zeroes exactly that provider's record
    and lowers the owner's record by the same amount. -/
theorem withdraw_provider (s : State) (o pv : Addr) (hp : pv ≠ "") (h : (withdraw s o pv).2.1 = .ok) :
    Map.get s.owner pv = some o ∧
    (withdraw s o pv).2.2 = (if balOf s.earned pv = 0 then [] else
        [.transfer s.cfg.escrow ((Map.get s.withdraw o).getD o) (balOf s.earned pv)]) ∧
    (withdraw s o pv).1.earned = Map.del s.earned pv ∧
    balOf (withdraw s o pv).1.ownerEarned o = balOf s.ownerEarned o - balOf s.earned pv ∧
    (∀ o2, o2 ≠ o → balOf (withdraw s o pv).1.ownerEarned o2 = balOf s.ownerEarned o2) := by
  obtain ⟨h1, h2, h3, h4⟩ := withdraw_ok s o pv h _ (if_neg hp).symm
  exact ⟨h1 hp, h2, h4.trans (if_neg hp), (h3 o).trans (if_pos rfl), fun o2 ho2 => (h3 o2).trans (if_neg (Ne.symm ho2))⟩

/-- Withdrawing for the owner (no provider named): pays exactly the owner's recorded total to its withdrawal address,
    removes the owner's record and the records of exactly the providers it owns; every other provider's and owner's
    earnings are untouched. -/
theorem withdraw_all (hc : CfgOK cfg p) {s : State} (hr : Reachable cfg p h0 t0 s) (o : Addr)
    (h : (withdraw s o "").2.1 = .ok) :
    (withdraw s o "").2.2 = (if balOf s.ownerEarned o = 0 then [] else
        [.transfer s.cfg.escrow ((Map.get s.withdraw o).getD o) (balOf s.ownerEarned o)]) ∧
    balOf (withdraw s o "").1.ownerEarned o = 0 ∧
    (∀ o2, o2 ≠ o → balOf (withdraw s o "").1.ownerEarned o2 = balOf s.ownerEarned o2) ∧
    (∀ pv, Map.get s.owner pv = some o → balOf (withdraw s o "").1.earned pv = 0) ∧
    (∀ pv, Map.get s.owner pv ≠ some o → Map.get (withdraw s o "").1.earned pv = Map.get s.earned pv) := by
  obtain ⟨-, h2, h3, h4⟩ := withdraw_ok s o "" h _ (if_pos rfl).symm
  -- the provider records removed are those of the providers the owner index lists for `o`: the ones `o` owns
  have hget : ∀ pv, Map.get (withdraw s o "").1.earned pv = if Map.get s.owner pv = some o then none else Map.get s.earned pv := by
    intro pv
    rw [h4, if_pos rfl, Map.get_foldl_del]
    simp only [providersOf_mem s (reachable_inv hc hr).b]
  refine ⟨h2, (h3 o).trans ((if_pos rfl).trans (Nat.sub_self _)), fun o2 ho2 => (h3 o2).trans (if_neg (Ne.symm ho2)),
    fun pv hpv => ?_, fun pv hpv => (hget pv).trans (if_neg hpv)⟩
  unfold balOf
  rw [hget pv, if_pos hpv]
  rfl

/-- Only the owner's own message changes its withdrawal address: every other operation (of anybody, and the end
    of a block) leaves it as it is. -/
theorem withdraw_address_changes_only_by_owner_message (s : State) (op : Op) (o : Addr)
    (h : Map.get (step s op).1.withdraw o ≠ Map.get s.withdraw o) : ∃ a, op = .setwd o a := by
  cases op with
  | setwd o' a =>
    by_cases ho : o' = o
    · exact ⟨a, by rw [ho]⟩
    · exact absurd (step_withdraw_addr s (.setwd o' a) o (decide_eq_false ho)) h
  | _ => exact absurd (step_withdraw_addr s _ o rfl) h

/-- The same over whole chains, restarts included: along every continuation of a chain by well-formed operations other
    than `o`'s own withdraw-address message, and by any number of zero-height restarts, `o`'s withdrawal address is
    what it was. -/
theorem withdraw_address_survives_everything_but_owner_message (hc : CfgOK cfg p) (o : Addr) {s s' : State}
    (hr : ReachableR cfg p h0 t0 s) (hcont : ContinuesR (fun op => op.setsWithdrawOf o = false) s s') :
    Map.get s'.withdraw o = Map.get s.withdraw o := continuesR_withdraw_addr hc o hr hcont

/-- The double bookkeeping of earnings holds in every state of a chain with restarts. -/
theorem owner_earnings_are_sum_across_restarts (hc : CfgOK cfg p) {s : State} (hr : ReachableR cfg p h0 t0 s) (o : Addr) :
    balOf s.ownerEarned o = ownedEarned s o := (reachableR_invAll hc hr).inv.m.ownerSum o

/-- The executable monitor `ownerEarnings`, which the check evaluates on every state decoded from the implementation's
    trace, reports nothing on any state of a chain of the model (restarts included): an alarm of it on an
    implementation state shows a state the model cannot reach. -/
theorem earnings_monitor_implied (hc : CfgOK cfg p) {s : State} (hr : ReachableR cfg p h0 t0 s) :
    Mon.ownerEarnings s = [] := ownerEarnings_sound (reachableR_invAll hc hr).inv

end SM.C13
