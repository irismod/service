import ServiceModel.Properties.C02
import ServiceModel.Properties.C03
import ServiceModel.Proofs.Settle
import ServiceModel.Proofs.NoSlash
import ServiceModel.Proofs.SlashOnce
import ServiceModel.Proofs.OnceRestart
/-!
# C04 — Providers are slashed exactly when they fail a request
-/
namespace SM.C04

/-- A response slashes exactly when it is accepted with a malformed output: the settlement's effects contain a
    slash iff the output is malformed, and then it is the slash of this request's provider. -/
theorem respond_slashes_iff_malformed {s s1 : State} {r : ReqId} {svc : SvcName} {cons : Addr} {q : Req} {pv : Addr}
    {out : OutKind} {e1 : List Effect} (h : settle s r svc cons q pv out = .ok (s1, e1)) :
    (out = .malformed → ∃ amt, e1.head? = some (.slash r q.prov amt)) ∧
    (out ≠ .malformed → ∀ e, e ∈ e1 → ∀ r2 p2 a, e ≠ .slash r2 p2 a) := by
  obtain ⟨hm, _, _, _, hs, -, -, rfl⟩ | ⟨hne, _, -, -, -, rfl⟩ := settle_ok h
  · refine ⟨fun _ => ?_, fun hne => absurd hm hne⟩
    cases Slash.of_done hs with
    | unbound | burnt => exact ⟨_, rfl⟩
    | refused hr => rw [hs] at hr; cases hr
  · refine ⟨fun hm => absurd hm hne, fun _ e he => ?_⟩
    split at he
    · cases he
    · cases List.mem_singleton.mp he; nofun

/-- At the end of a request's expiry block: a request made in super mode is not slashed; any other still-pending
    request is (the slash cannot fail in a reachable state: the deposit account is backed, the minimum deposit of an
    available binding does not overflow). -/
theorem expiry_slashes_unless_super (x : Ctx) (s : State) (r : ReqId) (q : Req) (hq : Map.get s.reqs r = some q) :
    (x.super = true → (expireReq x s r).effs = []) ∧
    (x.super = false → ∀ s1 e1, slash s r x.svc q.prov = .done s1 e1 →
        ∃ rest, (expireReq x s r).effs = e1 ++ rest) := by
  unfold expireReq
  rw [hq]; dsimp only
  refine ⟨fun hs => by rw [if_pos hs], fun hs s1 e1 hsl => ?_⟩
  rw [if_neg (by simp [hs]), hsl]
  dsimp only
  unfold refundExpired
  cases bankSend s1.bank s1.cfg.escrow x.cons q.fee <;> exact ⟨_, rfl⟩

/-- In a reachable state a slash never fails. -/
theorem slash_never_fails {s : State} (h : Inv s) (r : ReqId) (svc : SvcName) (pv : Addr)
    (hbind : (Map.get s.bindings (svc, pv)).isSome) : ∃ s1 e1, slash s r svc pv = .done s1 e1 :=
  slash_succeeds h.static h.b r svc pv

/-- Each slash removes `⌊current deposit × fraction⌋` from the binding's deposit and destroys it
    (restated from C03: deposit account, recorded deposit and total supply fall by the same amount). -/
theorem slash_amount {s s1 : State} {r : ReqId} {svc : SvcName} {pv : Addr} {e : List Effect} {b : Binding}
    (hb : Map.get s.bindings (svc, pv) = some b) (h : slash s r svc pv = .done s1 e) :
    e = [.slash r pv (b.deposit * s.params.slash / decUnit)] ∧
    s1.bank.supply = s.bank.supply - (b.deposit * s.params.slash / decUnit : Nat) ∧
    (∃ b1, Map.get s1.bindings (svc, pv) = some b1 ∧ b1.deposit = b.deposit - b.deposit * s.params.slash / decUnit) :=
  C03.slash_burns hb h

/-- … and never for any other reason: an operation that is neither a response nor the end of a block produces no
    slash (whatever the state; a rejected operation produces no effect at all). Together with
    `respond_slashes_iff_malformed` and `expiry_slashes_unless_super` this pins every slash to a failed request. -/
theorem no_slash_outside_response_and_expiry (s : State) (op : Op) (hne : op.isEndblock = false)
    (hnr : ∀ r pv c o, op ≠ .respond r pv c o) : ∀ e ∈ (step s op).2.2, e.isSlash = false :=
  step_noSlash s op hne hnr

variable {cfg : Config} {p : Params} {h0 t0 : Int}

/-- Every slash names a failed request: the request in a slash effect was pending before the step and is not pending
    after it (it was answered with a malformed output, or it expired in this end of block). -/
theorem slash_is_for_a_request_just_settled (hc : CfgOK cfg p) {s : State} (hr : Reachable cfg p h0 t0 s) (op : Op)
    (r : ReqId) (pv : Addr) (n : Nat) (he : Effect.slash r pv n ∈ (step s op).2.2) :
    r ∈ s.activeI ∧ r ∉ (step s op).1.activeI :=
  step_slash_pending (reachable_inv hc hr) op _ he r pv n rfl

/-- Once, restarts included: on a chain with any number of zero-height restarts, a request for which a provider was
    slashed is never the reason of a second slash, whatever well-formed operations and further restarts follow (a
    restart itself slashes nobody: the preparation only moves coins of the request escrow). -/
theorem request_slashed_at_most_once_across_restarts (hc : CfgOK cfg p) {s s' : State} (hr : ReachableR cfg p h0 t0 s)
    (op : Op) (hw : WF s op) (r : ReqId) (pv : Addr) (n : Nat) (he : Effect.slash r pv n ∈ (step s op).2.2)
    (hl : LeadsR (step s op).1 s') (op' : Op) (pv' : Addr) (n' : Nat) :
    Effect.slash r pv' n' ∉ (step s' op').2.2 := by
  intro he'
  obtain ⟨hact, hgone⟩ := step_slash_pending (reachableR_invAll hc hr).inv op _ he r pv n rfl
  have hr' := reachableR_of_leadsR (ReachableR.step op hr hw) hl
  exact C02.settled_request_never_pending_again_across_restarts hc hr op hw r hact hgone hl
    (step_slash_pending (reachableR_invAll hc hr').inv op' _ he' r pv' n' rfl).1

/-- Once: over every history, a request for which a provider was slashed is never the reason of a second slash —
    it is never pending again (C02), and a slash needs its request pending. -/
theorem request_slashed_at_most_once (hc : CfgOK cfg p) {s s' : State} (hr : Reachable cfg p h0 t0 s) (op : Op)
    (hw : WF s op) (r : ReqId) (pv : Addr) (n : Nat) (he : Effect.slash r pv n ∈ (step s op).2.2)
    (hl : Leads (step s op).1 s') (op' : Op) (pv' : Addr) (n' : Nat) :
    Effect.slash r pv' n' ∉ (step s' op').2.2 :=
  request_slashed_at_most_once_across_restarts hc hr.toR op hw r pv n he hl.toR op' pv' n'

end SM.C04
