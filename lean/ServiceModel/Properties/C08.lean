import ServiceModel.Proofs.Reachable
import ServiceModel.Proofs.Settle
/-!
# C08 — A request can be answered once, by its provider, until its expiry block ends
-/
namespace SM.C08

variable {cfg : Config} {p : Params} {h0 t0 : Int}

/-- In a reachable state the settlement of an admissible response cannot fail: the escrow holds the fee, the deposit
    account holds the slashed amount, the minimum deposit of an available binding does not overflow. -/
theorem settle_succeeds {s : State} (h : Inv s) (r : ReqId) (q : Req) (x : Ctx) (out : OutKind)
    (hq : Map.get s.reqs r = some q) (hx : Map.get s.ctxs r.ctx = some x) (hact : r ∈ s.activeI) :
    ∃ res, settle s r x.svc x.cons q q.prov out = .ok res :=
  SM.settle_succeeds h r q x.svc x.cons out hq hact

/-- A response is accepted exactly when the request is known, its context exists, the signer is the request's
    provider and the request is still pending. -/
theorem respond_ok_iff (hc : CfgOK cfg p) {s : State} (hr : Reachable cfg p h0 t0 s)
    (r : ReqId) (pv : Addr) (code : Nat) (out : OutKind) :
    (respond s r pv code out).2.1 = .ok ↔
      ∃ q x, Map.get s.reqs r = some q ∧ Map.get s.ctxs r.ctx = some x ∧ pv = q.prov ∧ r ∈ s.activeI := by
  constructor
  · intro hok
    obtain ⟨q, x, _, h⟩ := respond_accepted hok
    exact ⟨q, x, h.req, h.ctx, h.prov, h.pending⟩
  · rintro ⟨q, x, hq, hx, rfl, hact⟩
    obtain ⟨⟨s1, e1⟩, hs⟩ := settle_succeeds (reachable_inv hc hr) r q x out hq hx hact
    unfold respond
    rw [hq, hx]; dsimp only
    rw [if_neg (by simp), if_neg (by simpa using hact), hs]
    dsimp only
    split <;> rfl

/-- An accepted response makes the request no longer pending (so a second response is rejected) and records it. -/
theorem accepted_response_deactivates (s : State) (r : ReqId) (pv : Addr) (code : Nat) (out : OutKind)
    (hok : (respond s r pv code out).2.1 = .ok) :
    (respond s r pv code out).1.activeI = FSet.rem s.activeI r ∧
    (Map.get (respond s r pv code out).1.resps r).isSome := by
  obtain ⟨_, _, _, h⟩ := respond_accepted hok
  exact ⟨h.activeI, by rw [h.resps, Map.get_set_same]; rfl⟩

/-- Rejected operations change nothing (the handler runs on a cached context that is dropped on failure). -/
theorem rejected_changes_nothing (s : State) (op : Op) (hne : op.isEndblock = false) (hr : (step s op).2.1 ≠ .ok) :
    (step s op).1 = s := by
  rcases step_cases s op with ⟨_, _, he⟩ | ⟨_, _, _, _, _, he⟩ | ⟨_, rfl, _⟩
  · rw [he]
  · rw [he] at hr; exact absurd rfl hr
  · cases hne

end SM.C08
