import ServiceModel.Proofs.Reachable
import ServiceModel.Proofs.Frames
import ServiceModel.Proofs.RestartStable
/-!
# C15 — Definitions and bindings are unique, stable and consistently indexed
-/
namespace SM.C15

variable {cfg : Config} {p : Params} {h0 t0 : Int}

/-- A second definition with the same name is rejected and changes nothing. -/
theorem define_twice_rejected (s : State) (n : SvcName) (a : Addr) (d : Definition) (h : Map.get s.defs n = some d) :
    (define s n a).2.1 = .err .definitionExists ∧ (define s n a).1 = s := by
  unfold define; rw [h]; exact ⟨rfl, rfl⟩

/-- A binding exists at most once per service and provider, and only for a defined service. -/
theorem bind_twice_rejected (s : State) (svc : SvcName) (pv o : Addr) (dep : Option Nat) (text : PricingText) (qos : Nat)
    (h : (Map.get s.bindings (svc, pv)).isSome) : (bind s svc pv o dep text qos).2.1 ≠ .ok := by
  intro hok
  obtain ⟨e, s', hm, -⟩ := (bind_msg (s := s) rfl).ok hok
  cases hm with | bind _ _ hnew => rw [hnew] at h; cases h

theorem bindings_only_for_defined (hc : CfgOK cfg p) {s : State} (hr : Reachable cfg p h0 t0 s) (svc : SvcName) (pv : Addr)
    (h : (Map.get s.bindings (svc, pv)).isSome) : (Map.get s.defs svc).isSome :=
  (reachable_inv hc hr).b.defined svc pv h

/-- Every provider has one owner, shared by all its bindings. -/
theorem one_owner_per_provider (hc : CfgOK cfg p) {s : State} (hr : Reachable cfg p h0 t0 s) (svc1 svc2 : SvcName) (pv : Addr)
    (b1 b2 : Binding) (h1 : Map.get s.bindings (svc1, pv) = some b1) (h2 : Map.get s.bindings (svc2, pv) = some b2) :
    b1.owner = b2.owner ∧ Map.get s.owner pv = some b1.owner := by
  have hB := (reachable_inv hc hr).b
  have e1 := hB.ownerOf svc1 pv b1 h1
  exact ⟨Option.some.inj (e1.symm.trans (hB.ownerOf svc2 pv b2 h2)), e1⟩

/-- The ownership indexes are exactly the projections of the bindings. -/
theorem owner_indexes_are_projections (hc : CfgOK cfg p) {s : State} (hr : Reachable cfg p h0 t0 s) :
    (∀ o pv, (o, pv) ∈ s.ownerProv ↔ Map.get s.owner pv = some o) ∧
    (∀ o svc pv, (o, svc, pv) ∈ s.ownerBind ↔ ∃ b, Map.get s.bindings (svc, pv) = some b ∧ b.owner = o) ∧
    (∀ pv o, Map.get s.owner pv = some o → ∃ svc, (Map.get s.bindings (svc, pv)).isSome) :=
  ⟨(reachable_inv hc hr).b.provIdx, (reachable_inv hc hr).b.bindIdx, (reachable_inv hc hr).b.ownerHas⟩

/-- The stored price terms always correspond to the binding's published pricing text (and satisfy the pricing rules). -/
theorem stored_terms_match_text (hc : CfgOK cfg p) {s : State} (hr : Reachable cfg p h0 t0 s) (k : SvcName × Addr) (b : Binding)
    (hb : Map.get s.bindings k = some b) :
    ∃ pr, Map.get s.pricing k = some pr ∧ parsePricing b.text = .ok pr ∧ validPricing pr = true :=
  (reachable_inv hc hr).b.priced k b hb

theorem terms_only_for_bindings (hc : CfgOK cfg p) {s : State} (hr : Reachable cfg p h0 t0 s) (k : SvcName × Addr)
    (h : (Map.get s.pricing k).isSome) : (Map.get s.bindings k).isSome := (reachable_inv hc hr).b.pricingOnly k h

/-- A service definition, once created, never changes or disappears: after any sequence of operations the very
    same record is stored. -/
theorem definition_never_changes (s : State) (ops : List Op) (n : SvcName) (d : Definition)
    (h : Map.get s.defs n = some d) : Map.get (after s ops).defs n = some d := (stable_after ops s).defs n d h

/-- A binding never disappears and keeps its service, provider (its key) and owner for ever. -/
theorem binding_identity_never_changes (s : State) (ops : List Op) (k : SvcName × Addr) (b : Binding)
    (h : Map.get s.bindings k = some b) : ∃ b', Map.get (after s ops).bindings k = some b' ∧ b'.owner = b.owner :=
  (stable_after ops s).bind k b h

/-- A provider has one owner for life. -/
theorem provider_owner_for_life (s : State) (ops : List Op) (pv o : Addr) (h : Map.get s.owner pv = some o) :
    Map.get (after s ops).owner pv = some o := (stable_after ops s).owner pv o h

/-- Every stored definition and binding satisfies the module's own validity rules (on the fields the model
    carries: author, names, provider, owner, QoS): records are written only by messages that passed stateless
    validation, and the later rewrites of a binding keep its key, owner and a positive QoS. -/
theorem stored_records_valid {s : State} (hr : Reachable cfg p h0 t0 s) :
    (∀ n d, Map.get s.defs n = some d → defValid n d = true) ∧
    (∀ k b, Map.get s.bindings k = some b → bindingValid k b = true) :=
  ⟨(recOK hr).defs, (recOK hr).binds⟩

/-- Over every continuation of a chain by well-formed operations **and any number of zero-height restarts**
    (`ContinuesR`), from every state such a chain reaches: a definition stays the very same record, a binding stays
    with its service, provider and owner, and a provider keeps its owner. (A restart is not an operation of `after`;
    it rebuilds the store from the exported genesis, and gives back the same records: `C19.restart_gives_back_the_same_records`.) -/
theorem stable_across_restarts (hc : CfgOK cfg p) {s s' : State} (hr : ReachableR cfg p h0 t0 s)
    (hcont : ContinuesR (fun _ => True) s s') :
    (∀ n d, Map.get s.defs n = some d → Map.get s'.defs n = some d) ∧
    (∀ k b, Map.get s.bindings k = some b → ∃ b', Map.get s'.bindings k = some b' ∧ b'.owner = b.owner) ∧
    (∀ pv o, Map.get s.owner pv = some o → Map.get s'.owner pv = some o) :=
  let h := continuesR_stable hc hr hcont
  ⟨h.defs, h.bind, h.owner⟩

/-- The indexes, the price terms and the validity of the stored records hold in every state of a chain with restarts. -/
theorem indexes_and_terms_across_restarts (hc : CfgOK cfg p) {s : State} (hr : ReachableR cfg p h0 t0 s) :
    (∀ o pv, (o, pv) ∈ s.ownerProv ↔ Map.get s.owner pv = some o) ∧
    (∀ o svc pv, (o, svc, pv) ∈ s.ownerBind ↔ ∃ b, Map.get s.bindings (svc, pv) = some b ∧ b.owner = o) ∧
    (∀ k b, Map.get s.bindings k = some b →
      ∃ pr, Map.get s.pricing k = some pr ∧ parsePricing b.text = .ok pr ∧ validPricing pr = true) ∧
    (∀ n d, Map.get s.defs n = some d → defValid n d = true) ∧
    (∀ k b, Map.get s.bindings k = some b → bindingValid k b = true) :=
  let h := reachableR_invAll hc hr
  ⟨h.inv.b.provIdx, h.inv.b.bindIdx, h.inv.b.priced, h.recs.defs, h.recs.binds⟩

end SM.C15
