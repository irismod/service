import ServiceModel.Keys.Scans
import ServiceModel.Keys.ModelIds
import ServiceModel.Keys.Examples
import ServiceModel.Proofs.IssueSpec
/-!
# C18 — Identifiers and store keys are unambiguous

Only the property theorems; definitions and lemmas are in `ServiceModel/Keys/*`.
The key theorems are about the layouts in `Keys/Generated.lean`, which `factgen` rewrites
from `types/keys.go`, `types/invocation.go` and `keeper/*.go` on every run of the pipeline.

Hypotheses that appear below:
* `BechOK bech` — `sdk.AccAddress.String()` is injective and its text has no `0x00` byte;
* `WFEnv sh e` — the fields have the shapes of `Keys.sh`: names and denominations without `0x00`,
  owners and consumers 20 bytes (E1), context ids 40, request ids 58 bytes, tx hashes 32 bytes,
  providers of ANY length;
* integer ranges of the Go types.
Theorems named `…_needs_…` are negative results: the hypothesis in the name cannot be dropped.
-/
namespace SM.C18
open SM.Keys SM.Keys.Generated

/-- The hand-written id functions are the ones the translator read in `types/invocation.go`. -/
theorem ids_match_source (bech : Bytes → Bytes) (e : Env) :
    (∀ hash idx, encode bech GenerateRequestContextID ((e.setB F.txHash hash).setN F.msgIndex (u64 idx))
        = genCtxId hash idx) ∧
    (∀ ctx batch height index, encode bech GenerateRequestID
        ((((e.setB F.requestContextID ctx).setN F.requestContextBatchCounter batch).setN F.requestHeight (u64 height)).setN
          F.batchRequestIndex (u16 index)) = genReqId ctx batch height index) ∧
    (∀ id, splitBy SplitRequestContextID id = (splitCtxId id).map (fun r => [.b r.1, .i r.2])) ∧
    (∀ id, splitBy SplitRequestID id = (splitReqId id).map (fun r => [.b r.1, .i r.2.1, .i r.2.2.1, .i r.2.2.2])) ∧
    ContextIDLen = 40 ∧ RequestIDLen = 58 := by
  refine ⟨fun hash idx => ?_, fun ctx batch height index => ?_, fun id => ?_, fun id => ?_, rfl, rfl⟩
  · simp [GenerateRequestContextID, encode, Seg.val, Env.setB, Env.setN, genCtxId, F.txHash, F.msgIndex]
  · simp [GenerateRequestID, encode, Seg.val, Env.setB, Env.setN, genReqId, F.requestContextID,
      F.requestContextBatchCounter, F.requestHeight, F.batchRequestIndex]
  · unfold splitBy splitCtxId
    by_cases h : id.length = 40 <;> simp [h, SplitRequestContextID, ContextIDLen, Part.eval]
  · unfold splitBy splitReqId
    by_cases h : id.length = 58 <;> simp [h, SplitRequestID, RequestIDLen, Part.eval]

/-- Context ids have 40 bytes. -/
theorem ctx_id_length (hash : Bytes) (idx : Int) (h : hash.length = 32) : (genCtxId hash idx).length = ContextIDLen :=
  genCtxId_length hash idx h

/-- A context id decodes to exactly the hash and message index it was built from (every int64 index). -/
theorem ctx_id_roundtrip (hash : Bytes) (idx : Int) (h : hash.length = 32) (h1 : -2 ^ 63 ≤ idx) (h2 : idx < 2 ^ 63) :
    splitCtxId (genCtxId hash idx) = some (hash, idx) :=
  splitCtxId_eq_some_iff.mpr ⟨rfl, h, h1, h2⟩

/-- Distinct (hash, index) give distinct context ids. -/
theorem ctx_id_injective (h₁ h₂ : Bytes) (i₁ i₂ : Int) (l₁ : h₁.length = 32) (l₂ : h₂.length = 32)
    (a₁ : -2 ^ 63 ≤ i₁) (b₁ : i₁ < 2 ^ 63) (a₂ : -2 ^ 63 ≤ i₂) (b₂ : i₂ < 2 ^ 63)
    (h : genCtxId h₁ i₁ = genCtxId h₂ i₂) : h₁ = h₂ ∧ i₁ = i₂ := by
  have s := ctx_id_roundtrip h₂ i₂ l₂ a₂ b₂
  rw [← h, ctx_id_roundtrip h₁ i₁ l₁ a₁ b₁] at s
  simpa using s

/-- `SplitRequestContextID` fails exactly on wrong lengths, and whatever it returns rebuilds the id. -/
theorem ctx_id_split_total (id : Bytes) :
    (id.length ≠ 40 → splitCtxId id = none) ∧
    (∀ hash idx, splitCtxId id = some (hash, idx) →
      genCtxId hash idx = id ∧ hash.length = 32 ∧ -2 ^ 63 ≤ idx ∧ idx < 2 ^ 63) :=
  ⟨fun h => by unfold splitCtxId; rw [if_neg h], fun _ _ => splitCtxId_eq_some_iff.mp⟩

/-- Request ids have 58 bytes. -/
theorem req_id_length (ctx : Bytes) (batch : Nat) (height index : Int) (h : ctx.length = 40) :
    (genReqId ctx batch height index).length = RequestIDLen :=
  genReqId_length ctx batch height index h

/-- A request id decodes to exactly the context, batch counter (uint64), issue height (int64) and
    index (int16) it was built from — boundary values included. -/
theorem req_id_roundtrip (ctx : Bytes) (batch : Nat) (height index : Int) (h : ctx.length = 40)
    (hb : batch < 2 ^ 64) (h1 : -2 ^ 63 ≤ height) (h2 : height < 2 ^ 63)
    (i1 : -2 ^ 15 ≤ index) (i2 : index < 2 ^ 15) :
    splitReqId (genReqId ctx batch height index) = some (ctx, batch, height, index) :=
  splitReqId_eq_some_iff.mpr ⟨rfl, h, hb, ⟨h1, h2⟩, i1, i2⟩

/-- Distinct (context, batch, height, index) give distinct request ids. -/
theorem req_id_injective (c₁ c₂ : Bytes) (b₁ b₂ : Nat) (h₁ h₂ i₁ i₂ : Int)
    (lc₁ : c₁.length = 40) (lc₂ : c₂.length = 40) (lb₁ : b₁ < 2 ^ 64) (lb₂ : b₂ < 2 ^ 64)
    (ha₁ : -2 ^ 63 ≤ h₁) (hb₁ : h₁ < 2 ^ 63) (ha₂ : -2 ^ 63 ≤ h₂) (hb₂ : h₂ < 2 ^ 63)
    (ia₁ : -2 ^ 15 ≤ i₁) (ib₁ : i₁ < 2 ^ 15) (ia₂ : -2 ^ 15 ≤ i₂) (ib₂ : i₂ < 2 ^ 15)
    (h : genReqId c₁ b₁ h₁ i₁ = genReqId c₂ b₂ h₂ i₂) : c₁ = c₂ ∧ b₁ = b₂ ∧ h₁ = h₂ ∧ i₁ = i₂ := by
  have s := req_id_roundtrip c₂ b₂ h₂ i₂ lc₂ lb₂ ha₂ hb₂ ia₂ ib₂
  rw [← h, req_id_roundtrip c₁ b₁ h₁ i₁ lc₁ lb₁ ha₁ hb₁ ia₁ ib₁] at s
  simpa using s

/-- `SplitRequestID` fails exactly on wrong lengths, and whatever it returns rebuilds the id: every
    58-byte string is the id of exactly one (context, batch, height, index). -/
theorem req_id_split_total (id : Bytes) :
    (id.length ≠ 58 → splitReqId id = none) ∧
    (∀ ctx batch height index, splitReqId id = some (ctx, batch, height, index) →
      genReqId ctx batch height index = id ∧ ctx.length = 40 ∧ batch < 2 ^ 64 ∧
      (-2 ^ 63 ≤ height ∧ height < 2 ^ 63) ∧ (-2 ^ 15 ≤ index ∧ index < 2 ^ 15)) :=
  ⟨fun h => by unfold splitReqId; rw [if_neg h], fun _ _ _ _ => splitReqId_eq_some_iff.mp⟩

/-- The identifiers of the state-machine model (tuples of naturals) are, for in-range tuples, the
    bytes `GenerateRequestContextID` / `GenerateRequestID` produce. -/
theorem model_ids_are_generated (r : ReqId) (h : ReqId.InRange r) :
    encCtx r.ctx = genCtxId (beN 32 r.ctx.hash) (r.ctx.idx : Int) ∧
    encReq r = genReqId (encCtx r.ctx) r.batch (r.height : Int) (r.index : Int) ∧
    (encCtx r.ctx).length = 40 ∧ (encReq r).length = 58 :=
  ⟨encCtx_eq_gen r.ctx h.1, encReq_eq_gen r h, encCtx_length _, encReq_length _⟩

/-- Distinct model identifiers have distinct bytes. -/
theorem model_ids_injective :
    (∀ a b : CtxId, CtxId.InRange a → CtxId.InRange b → encCtx a = encCtx b → a = b) ∧
    (∀ a b : ReqId, ReqId.InRange a → ReqId.InRange b → encReq a = encReq b → a = b) :=
  ⟨encCtx_inj, encReq_inj⟩

/-- The store iterates keys in byte order; on ids that is the order `CtxId.le` / `ReqId.le` in which
    the model iterates (context, then batch, then height, then index). -/
theorem id_byte_order_is_model_order :
    (∀ a b : CtxId, CtxId.InRange a → CtxId.InRange b → lexLe (encCtx a) (encCtx b) = a.le b) ∧
    (∀ a b : ReqId, ReqId.InRange a → ReqId.InRange b → lexLe (encReq a) (encReq b) = a.le b) :=
  ⟨lexLe_encCtx, lexLe_encReq⟩

/-- A request's id records its position: the `k`-th request written when a batch is issued
    (`issuedPairs … 0` is what `InitiateRequests` writes, see `issueReqs_reqs`; the issue event lists
    the requests in this order, C06 `issued_requests_are_exactly`) goes to the `k`-th provider and has
    the id (context, new batch counter, current height, `k`); decoding its bytes with
    `SplitRequestID` returns exactly these four. -/
theorem request_id_records_position (c : CtxId) (x : Ctx) (height : Int) (el : List (Addr × Nat)) (k : Nat)
    (hk : k < el.length)
    (hr : ReqId.InRange { ctx := c, batch := x.batch + 1, height := height.toNat, index := k }) :
    ∃ q, (issuedPairs c x height el 0)[k]? =
        some ({ ctx := c, batch := x.batch + 1, height := height.toNat, index := k }, q) ∧
      q.prov = (el[k]).1 ∧
      splitReqId (encReq { ctx := c, batch := x.batch + 1, height := height.toNat, index := k }) =
        some (encCtx c, x.batch + 1, (height.toNat : Int), (k : Int)) := by
  have h := issuedPairs_getElem? c x height el 0 k
  rw [List.getElem?_eq_getElem hk, Nat.zero_add] at h
  exact ⟨_, h, rfl, split_encReq _ hr⟩

/-- Keys of different record kinds never coincide: the 19 key builders start with pairwise
    distinct bytes (`0x01 … 0x09, 0x10 … 0x19`). -/
theorem record_kinds_disjoint (bech : Bytes → Bytes) :
    (keyBuilders.map (·.layout)).Pairwise (fun k₁ k₂ => ∀ e₁ e₂, encode bech k₁ e₁ ≠ encode bech k₂ e₂) :=
  headsDiffer_pairwise (by decide +kernel)

/-- Under the hypotheses `sh`, every key builder except `GetEarnedFeesKey` is injective in the
    fields it writes (`FieldsEq`: equal byte fields, equal integers modulo 2^64) … -/
theorem key_builders_injective {bech : Bytes → Bytes} (hb : BechOK bech) (k : Fn) (hk : k ∈ keyBuilders)
    (hne : k.layout ≠ GetEarnedFeesKey) (e₁ e₂ : Env) (w₁ : WFEnv sh e₁) (w₂ : WFEnv sh e₂) :
    encode bech k.layout e₁ = encode bech k.layout e₂ ↔ FieldsEq k.layout e₁ e₂ := by
  have hall : keyBuilders.all (fun k => k.layout == GetEarnedFeesKey || decodable sh k.layout) = true := by decide
  have := List.all_eq_true.mp hall k hk
  simp only [Bool.or_eq_true, beq_iff_eq] at this
  rcases this with h | h
  · exact absurd h hne
  · exact key_injective hb k.layout h e₁ e₂ w₁ w₂

/-- … and `GetEarnedFeesKey(provider, denom)` = `0x18 ‖ provider ‖ denom` is injective once the
    denomination is fixed (the module pays fees in one denomination) … -/
theorem earnedFeesKey_injective_fixed_denom (bech : Bytes → Bytes) (e₁ e₂ : Env)
    (hd : e₁.b F.denom = e₂.b F.denom) :
    encode bech GetEarnedFeesKey e₁ = encode bech GetEarnedFeesKey e₂ ↔ e₁.b F.provider = e₂.b F.provider := by
  simp only [GetEarnedFeesKey, encode, Seg.val, List.append_nil, List.cons_append, List.nil_append,
    List.cons.injEq, true_and, hd]
  exact ⟨List.append_cancel_right, fun h => by rw [h]⟩

/-- … or once providers have 20 bytes. -/
theorem earnedFeesKey_injective_provider20 {bech : Bytes → Bytes} (hb : BechOK bech) (e₁ e₂ : Env)
    (w₁ : WFEnv shProv20 e₁) (w₂ : WFEnv shProv20 e₂) :
    encode bech GetEarnedFeesKey e₁ = encode bech GetEarnedFeesKey e₂ ↔ FieldsEq GetEarnedFeesKey e₁ e₂ :=
  key_injective hb GetEarnedFeesKey (by decide) e₁ e₂ w₁ w₂

/-- NEGATIVE: with providers of any length and two denominations the earned-fees key is ambiguous:
    (provider `01`, denom `stake`) and (provider `01 73`, denom `take`) have the same key. -/
theorem earnedFeesKey_needs_fixed_denom (bech : Bytes → Bytes) :
    ∃ e₁ e₂, WFEnv sh e₁ ∧ WFEnv sh e₂ ∧ encode bech GetEarnedFeesKey e₁ = encode bech GetEarnedFeesKey e₂ ∧
      e₁.b F.provider ≠ e₂.b F.provider :=
  ⟨((Env.default sh).setB F.provider [0x01]).setB F.denom [0x73, 0x74, 0x61, 0x6b, 0x65],
   ((Env.default sh).setB F.provider [0x01, 0x73]).setB F.denom [0x74, 0x61, 0x6b, 0x65],
   WFEnv_set2 (by decide) (by decide),
   WFEnv_set2 (by decide) (by decide), rfl, by decide⟩

/-- `GetOwnerEarnedFeesKey(owner, denom)` ignores its `denom`: an owner has ONE earnings record,
    whatever the denomination (sound only because fees are paid in one denomination). -/
theorem ownerEarnedFeesKey_ignores_denom (bech : Bytes → Bytes) (e : Env) (d : Bytes) :
    encode bech GetOwnerEarnedFeesKey (e.setB F.denom d) = encode bech GetOwnerEarnedFeesKey e := by
  simp [GetOwnerEarnedFeesKey, encode, Seg.val, Env.setB, F.owner, F.denom]

/-- NEGATIVE: without E1 (owners of any length) `GetOwnerProviderKey(owner, provider)` =
    `0x05 ‖ owner ‖ provider` is ambiguous: (owner `01`, provider `02 03`) vs (owner `01 02`, provider `03`). -/
theorem ownerProviderKey_needs_owner20 (bech : Bytes → Bytes) :
    ∃ e₁ e₂, WFEnv shNoE1 e₁ ∧ WFEnv shNoE1 e₂ ∧ encode bech GetOwnerProviderKey e₁ = encode bech GetOwnerProviderKey e₂ ∧
      e₁.b F.owner ≠ e₂.b F.owner :=
  ⟨((Env.default shNoE1).setB F.owner [0x01]).setB F.provider [0x02, 0x03],
   ((Env.default shNoE1).setB F.owner [0x01, 0x02]).setB F.provider [0x03],
   WFEnv_set2 (by decide) (by decide),
   WFEnv_set2 (by decide) (by decide), rfl, by decide⟩

/-- NEGATIVE: without E1 `GetOwnerServiceBindingKey(owner, serviceName, provider)` =
    `0x03 ‖ owner ‖ serviceName ‖ 0x00 ‖ provider` is ambiguous: (owner `01`, name `ab`) vs (owner `01 61`, name `b`). -/
theorem ownerServiceBindingKey_needs_owner20 (bech : Bytes → Bytes) :
    ∃ e₁ e₂, WFEnv shNoE1 e₁ ∧ WFEnv shNoE1 e₂ ∧
      encode bech GetOwnerServiceBindingKey e₁ = encode bech GetOwnerServiceBindingKey e₂ ∧
      e₁.b F.owner ≠ e₂.b F.owner :=
  ⟨((Env.default shNoE1).setB F.owner [0x01]).setB F.serviceName [0x61, 0x62],
   ((Env.default shNoE1).setB F.owner [0x01, 0x61]).setB F.serviceName [0x62],
   WFEnv_set2 (by decide) (by decide),
   WFEnv_set2 (by decide) (by decide), rfl, by decide⟩

/-- The scan table is the list of `sdk.KVStorePrefixIterator` calls of `keeper/*.go` (same prefix
    layout, same filter, both directions), every scanned key function is a key builder, and the
    filter of the filtered scans compares the key remainder with the stored coin's denomination. -/
theorem scan_table_is_the_code : sitesCovered = true ∧ filterIsDenom = true := by decide +kernel

/-- Every prefix scan the module performs is exact under the hypotheses `sh`:
    * plain scans: `prefix(subject) <+: key(record)` iff the record's subject fields are the subject
      (for the 8 whole-prefix scans the subject is empty: every record of the kind is returned);
    * the earned-fees scan WITH its filter (remainder of the key = the record's denomination):
      iff the record's provider is the subject provider — for providers of ANY length;
    * the three by-context scans: iff the record's request id decodes to the subject context and batch.
    Service names that are prefixes of each other (`a`, `ab`) are told apart by the `0x00` separator. -/
theorem all_scans_exact {bech : Bytes → Bytes} (hb : BechOK bech) (x : Scan) (hx : x ∈ scanTable) :
    x.Exact bech sh := by
  have hall : scanTable.all (Scan.ok sh) = true := by decide
  exact Scan.ok_sound hb rfl rfl x (List.all_eq_true.mp hall x hx)

/-- No scan returns a record of another kind: the prefix of a scan is never a prefix of a key made
    by a builder other than the scan's own. -/
theorem scans_return_no_foreign_kind (bech : Bytes → Bytes) (x : Scan) (hx : x ∈ scanTable) (k : Fn) (hk : k ∈ keyBuilders)
    (hne : k.layout ≠ x.key) (e₁ e₂ : Env) : ¬ encode bech x.sub e₁ <+: encode bech k.layout e₂ := by
  -- the head test first: it settles every pair but a scan and its own builder, and is the cheap one
  have hall : scanTable.all (fun x =>
      keyBuilders.all (fun k => headsDiffer x.sub k.layout || k.layout == x.key)) = true := by decide +kernel
  have := List.all_eq_true.mp (List.all_eq_true.mp hall x hx) k hk
  simp only [Bool.or_eq_true, beq_iff_eq] at this
  rcases this with h | h
  · exact headsDiffer_sound h e₁ e₂
  · exact absurd h hne

/-- The bindings-of-a-service scan spelled out: `GetBindingsSubspace(name)` is a prefix of
    `GetServiceBindingKey(name', provider)` iff `name = name'`, for NUL-free names and every provider. -/
theorem bindings_scan_exact {bech : Bytes → Bytes} (hb : BechOK bech) (name name' provider : Bytes)
    (hn : (0 : UInt8) ∉ name) (hn' : (0 : UInt8) ∉ name') :
    encode bech GetBindingsSubspace ((Env.default sh).setB F.serviceName name) <+:
      encode bech GetServiceBindingKey (((Env.default sh).setB F.serviceName name').setB F.provider provider)
    ↔ name = name' := by
  have h : Scan.Exact bech sh { sub := GetBindingsSubspace, key := GetServiceBindingKey } :=
    all_scans_exact hb _ (by decide)
  rw [h _ _ (WFEnv_setB (WFEnv_default sh) F.serviceName name hn)
    (WFEnv_setB (WFEnv_setB (WFEnv_default sh) F.serviceName name' hn') F.provider provider trivial)]
  simp [FieldsEq, GetBindingsSubspace, Env.setB, F.serviceName, F.provider]

/-- The earned-fees scan spelled out (repository fix D6): the record `(provider', denom)` passes the
    prefix test AND the remainder filter for the subject `provider` iff `provider' = provider` —
    for providers of every length. -/
theorem earnedFees_scan_exact_with_filter {bech : Bytes → Bytes} (hb : BechOK bech) (provider provider' denom : Bytes)
    (hd : (0 : UInt8) ∉ denom) :
    (encode bech GetEarnedFeesSubspace ((Env.default sh).setB F.provider provider) <+:
        encode bech GetEarnedFeesKey (((Env.default sh).setB F.provider provider').setB F.denom denom) ∧
      (encode bech GetEarnedFeesKey (((Env.default sh).setB F.provider provider').setB F.denom denom)).drop
        (encode bech GetEarnedFeesSubspace ((Env.default sh).setB F.provider provider)).length = denom)
    ↔ provider = provider' := by
  have h : Scan.Exact bech sh { sub := GetEarnedFeesSubspace, key := GetEarnedFeesKey, filtered := true } :=
    all_scans_exact hb _ (by decide)
  have h := h ((Env.default sh).setB F.provider provider)
    (((Env.default sh).setB F.provider provider').setB F.denom denom)
    (WFEnv_setB (WFEnv_default sh) F.provider provider trivial)
    (WFEnv_setB (WFEnv_setB (WFEnv_default sh) F.provider provider' trivial) F.denom denom hd)
  have hsuf : encode bech (List.drop GetEarnedFeesSubspace.length GetEarnedFeesKey)
      (((Env.default sh).setB F.provider provider').setB F.denom denom) = denom := by
    simp [GetEarnedFeesSubspace, GetEarnedFeesKey, encode, Seg.val, Env.setB, F.denom]
  rw [hsuf] at h
  rw [h]
  simp [FieldsEq, GetEarnedFeesSubspace, Env.setB, F.provider, F.denom]

/-- NEGATIVE (defect D6 before its repair): WITHOUT the filter the earned-fees scan is not exact for
    variable-length providers: the prefix of provider `01` matches the record of provider `01 02`. -/
theorem earnedFees_scan_needs_filter (bech : Bytes → Bytes) :
    ∃ e₁ e₂, WFEnv sh e₁ ∧ WFEnv sh e₂ ∧
      encode bech GetEarnedFeesSubspace e₁ <+: encode bech GetEarnedFeesKey e₂ ∧ e₁.b F.provider ≠ e₂.b F.provider :=
  ⟨(Env.default sh).setB F.provider [0x01],
   ((Env.default sh).setB F.provider [0x01, 0x02]).setB F.denom [0x73, 0x74, 0x61, 0x6b, 0x65],
   WFEnv_setB (WFEnv_default sh) _ _ (by decide),
   WFEnv_set2 (by decide) (by decide),
   ⟨[0x02, 0x73, 0x74, 0x61, 0x6b, 0x65], rfl⟩, by decide⟩

/-- NEGATIVE: the three scans whose prefix ends in a raw owner address (`GetOwnerProvidersSubspace`,
    `GetOwnerEarnedFeesSubspace`, and — through the name that follows — `GetOwnerBindingsSubspace`)
    need E1: with owners of any length they are rejected by the check, and owner `01` sees the
    provider / earnings records of owner `01 02`. -/
theorem owner_scans_need_owner20 (bech : Bytes → Bytes) :
    (scanTable.filter (fun x => !(x.ok shNoE1))).map (·.sub) =
      [GetOwnerBindingsSubspace, GetOwnerProvidersSubspace, GetOwnerEarnedFeesSubspace] ∧
    (∃ e₁ e₂, WFEnv shNoE1 e₁ ∧ WFEnv shNoE1 e₂ ∧
      encode bech GetOwnerProvidersSubspace e₁ <+: encode bech GetOwnerProviderKey e₂ ∧ e₁.b F.owner ≠ e₂.b F.owner) ∧
    (∃ e₁ e₂, WFEnv shNoE1 e₁ ∧ WFEnv shNoE1 e₂ ∧
      encode bech GetOwnerEarnedFeesSubspace e₁ <+: encode bech GetOwnerEarnedFeesKey e₂ ∧ e₁.b F.owner ≠ e₂.b F.owner) ∧
    (∃ e₁ e₂, WFEnv shNoE1 e₁ ∧ WFEnv shNoE1 e₂ ∧
      encode bech GetOwnerBindingsSubspace e₁ <+: encode bech GetOwnerServiceBindingKey e₂ ∧ e₁.b F.owner ≠ e₂.b F.owner) :=
  ⟨by decide +kernel,
   ⟨(Env.default shNoE1).setB F.owner [0x01], ((Env.default shNoE1).setB F.owner [0x01, 0x02]).setB F.provider [0x03],
    WFEnv_setB (WFEnv_default _) _ _ (by decide), WFEnv_set2 (by decide) (by decide),
    ⟨[0x02, 0x03], rfl⟩, by decide⟩,
   ⟨(Env.default shNoE1).setB F.owner [0x01], (Env.default shNoE1).setB F.owner [0x01, 0x02],
    WFEnv_setB (WFEnv_default _) _ _ (by decide), WFEnv_setB (WFEnv_default _) _ _ (by decide), ⟨[0x02], rfl⟩, by decide⟩,
   ⟨((Env.default shNoE1).setB F.owner [0x01]).setB F.serviceName [0x61],
    ((Env.default shNoE1).setB F.owner [0x01, 0x61]).setB F.serviceName [],
    WFEnv_set2 (by decide) (by decide),
    WFEnv_set2 (by decide) (by decide), ⟨[], rfl⟩, by decide⟩⟩

/-- `BechOK` has a model (two non-zero nibble bytes per byte): the key theorems are not vacuous. -/
example : ∃ bech, BechOK bech := ⟨hexish, hexish_ok⟩

/-- well-formed environments exist, with providers of any length (here 1 and 21 bytes) -/
example : WFEnv sh (((Env.default sh).setB F.provider [0x01]).setB F.serviceName [0x61]) ∧
    WFEnv sh ((Env.default sh).setB F.provider (List.replicate 21 0x07)) :=
  ⟨WFEnv_set2 trivial (by decide),
   WFEnv_setB (WFEnv_default sh) F.provider _ trivial⟩

/-- names that are prefixes of each other: the bindings scan of `a` does not return a binding of `ab`,
    and does return the binding of `a` -/
example :
    ¬ (encode hexish GetBindingsSubspace ((Env.default sh).setB F.serviceName [0x61]) <+:
        encode hexish GetServiceBindingKey (((Env.default sh).setB F.serviceName [0x61, 0x62]).setB F.provider [0x01])) ∧
    (encode hexish GetBindingsSubspace ((Env.default sh).setB F.serviceName [0x61]) <+:
        encode hexish GetServiceBindingKey (((Env.default sh).setB F.serviceName [0x61]).setB F.provider [0x01])) := by
  constructor
  · rw [bindings_scan_exact hexish_ok _ _ _ (by decide) (by decide)]; decide
  · rw [bindings_scan_exact hexish_ok _ _ _ (by decide) (by decide)]

/-- boundary values: the round trip at the extreme int64 / uint64 / int16 values -/
example : splitReqId (genReqId (List.replicate 40 0xff) (2 ^ 64 - 1) (-2 ^ 63) (-2 ^ 15)) =
    some (List.replicate 40 0xff, 2 ^ 64 - 1, -2 ^ 63, -2 ^ 15) :=
  req_id_roundtrip _ _ _ _ (by simp) (by decide) (by decide) (by decide) (by decide) (by decide)

end SM.C18
