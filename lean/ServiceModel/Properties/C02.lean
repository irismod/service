import ServiceModel.Properties.C08
import ServiceModel.Proofs.Settle
import ServiceModel.Proofs.Once
import ServiceModel.Proofs.OnceRestart
/-!
# C02 — Each paid request is settled exactly once, to the right party
-/
namespace SM.C02

/-- An accepted response with a well-formed (or absent) output: the tax `⌊fee × rate⌋` goes to the fee collector,
    the rest is added to the provider's earnings; nothing goes back to the consumer. -/
theorem accepted_response_pays_provider {s s1 : State} {r : ReqId} {svc : SvcName} {cons : Addr} {q : Req} {pv : Addr}
    {out : OutKind} {e1 : List Effect} (hout : out ≠ .malformed) (h : settle s r svc cons q pv out = .ok (s1, e1)) :
    e1 = (if q.fee * s.params.tax / decUnit = 0 then [] else [.transfer s.cfg.escrow s.cfg.collector (q.fee * s.params.tax / decUnit)]) ∧
    s1.earned = addTo s.earned pv (q.fee - q.fee * s.params.tax / decUnit) ∧
    q.fee * s.params.tax / decUnit ≤ q.fee := by
  obtain ⟨rfl, -⟩ | ⟨-, _, -, htax, rfl, rfl⟩ := settle_ok h
  · exact absurd rfl hout
  · exact ⟨rfl, rfl, htax⟩

/-- An accepted response with a malformed output: the provider is slashed and the whole fee returns to the consumer;
    the provider earns nothing. -/
theorem malformed_response_refunds_consumer {s s1 : State} {r : ReqId} {svc : SvcName} {cons : Addr} {q : Req} {pv : Addr}
    {e1 : List Effect} (h : settle s r svc cons q pv .malformed = .ok (s1, e1)) :
    s1.earned = s.earned ∧ s1.ownerEarned = s.ownerEarned ∧
    (q.fee ≠ 0 → .transfer s.cfg.escrow cons q.fee ∈ e1) := by
  obtain ⟨-, s0, e0, bank', hs, -, rfl, rfl⟩ | ⟨hne, -⟩ := settle_ok h
  · have hf := (Slash.of_done hs).frame
    refine ⟨by rw [hf], by rw [hf], fun hne => ?_⟩
    rw [if_neg hne, hf]
    exact List.mem_append_right _ (List.mem_singleton_self _)
  · exact absurd rfl hne

/-- A request that is still pending when its expiry block ends gets its whole fee back to the consumer (unless it
    was made in super mode, which carries no fee): in a reachable state the refund cannot fail. -/
theorem expired_request_refunds_consumer (x : Ctx) (s : State) (r : ReqId) (q : Req) (h : Inv s)
    (hq : Map.get s.reqs r = some q) (hx : Map.get s.ctxs r.ctx = some x) (hact : r ∈ s.activeI)
    (hsuper : x.super = false) (hfee : q.fee ≠ 0) (hnp : (expireReq x s r).panic = none) :
    .transfer s.cfg.escrow x.cons q.fee ∈ (expireReq x s r).effs := by
  obtain ⟨hs, -⟩ | ⟨-, _, he⟩ := expiry_settles h hq hact
  · rw [hsuper] at hs; cases hs
  · rw [he, if_neg hfee]
    exact List.mem_cons_of_mem _ (List.mem_singleton_self _)

/-- A consumer is debited at batch start by exactly the sum of the fees of the requests issued for it in that batch. -/
theorem batch_debit_is_sum_of_fees (c : CtxId) (x : Ctx) (height : Int) (el : List (Addr × Nat)) (i : Nat) :
    ((issuedPairs c x height el i).map (fun pq => pq.2.fee)).sum = if x.super then 0 else sumPrices el :=
  issuedPairs_fees c x height el i

/-- an accepted response needs the pending marker -/
theorem accepted_response_was_pending (s : State) (r : ReqId) (pv : Addr) (code : Nat) (out : OutKind)
    (hok : (respond s r pv code out).2.1 = .ok) : r ∈ s.activeI := by
  obtain ⟨_, _, _, h⟩ := respond_accepted hok
  exact h.pending

/-- At most once: a settlement needs the pending marker and removes it, so a settled request cannot be settled again:
    a second response is rejected, and the expiry handler only visits pending requests. -/
theorem settled_request_not_settled_again (s : State) (r : ReqId) (pv : Addr) (code : Nat) (out : OutKind)
    (pv2 : Addr) (code2 : Nat) (out2 : OutKind)
    (hok : (respond s r pv code out).2.1 = .ok) :
    (respond (respond s r pv code out).1 r pv2 code2 out2).2.1 ≠ .ok := by
  obtain ⟨hact, _⟩ := C08.accepted_response_deactivates s r pv code out hok
  intro h2
  have := accepted_response_was_pending _ r pv2 code2 out2 h2
  rw [hact, FSet.mem_rem] at this
  exact this.2 rfl

variable {cfg : Config} {p : Params} {h0 t0 : Int}

/-- Exactly once over a whole history: a request that stopped being pending in some step (it was answered, or it
    expired — the only two settlements) is never pending again, whatever well-formed operations follow: new pending
    requests are only created by the new-batch handler with a batch number above the context's counter, the counter
    never decreases, and a context id is never used twice. -/
theorem settled_request_never_pending_again (hc : CfgOK cfg p) {s s' : State} (hr : Reachable cfg p h0 t0 s)
    (op : Op) (hw : WF s op) (r : ReqId) (hact : r ∈ s.activeI) (hgone : r ∉ (step s op).1.activeI)
    (hl : Leads (step s op).1 s') : r ∉ s'.activeI :=
  (spent_leads hc (Reachable.step op hr hw) hl r (spent_of_deactivated (reachable_inv hc hr) op hw r hact hgone)).1

/-- … hence no later response to it is ever accepted (and the expiry handler, which only visits pending requests,
    never settles it either): each request is settled at most once in every history. -/
theorem settled_request_never_answered_again (hc : CfgOK cfg p) {s s' : State} (hr : Reachable cfg p h0 t0 s)
    (op : Op) (hw : WF s op) (r : ReqId) (hact : r ∈ s.activeI) (hgone : r ∉ (step s op).1.activeI)
    (hl : Leads (step s op).1 s') (pv : Addr) (code : Nat) (out : OutKind) :
    (respond s' r pv code out).2.1 ≠ .ok :=
  fun h => settled_request_never_pending_again hc hr op hw r hact hgone hl (accepted_response_was_pending s' r pv code out h)

/-- Exactly once, restarts included: on a chain that has gone through any number of restarts, a request that stopped
    being pending in some step is never pending again, whatever well-formed operations **and further restarts**
    follow (`LeadsR`) — a context comes back from a restart with the batch counter it had, nothing is pending on the
    restarted chain, and used context ids stay used (E7; the ghost set `usedIds` is carried over by `restart`). -/
theorem settled_request_never_pending_again_across_restarts (hc : CfgOK cfg p) {s s' : State}
    (hr : ReachableR cfg p h0 t0 s) (op : Op) (hw : WF s op) (r : ReqId) (hact : r ∈ s.activeI)
    (hgone : r ∉ (step s op).1.activeI) (hl : LeadsR (step s op).1 s') : r ∉ s'.activeI :=
  (spent_leadsR hc (ReachableR.step op hr hw) hl r
    (spent_of_deactivated (reachableR_invAll hc hr).inv op hw r hact hgone)).1

/-- A request that is pending when the chain is restarted — the zero-height preparation returns its fee to the
    consumer (`C19.prep_refunds_every_pending_fee`) — is never pending on the restarted chain, now or later, and no
    response to it is ever accepted there: the refund is its one settlement. -/
theorem request_pending_at_restart_is_settled_for_good (hc : CfgOK cfg p) {s s1 s' : State}
    (hr : ReachableR cfg p h0 t0 s) {height time : Int} (hre : restart s height time = some s1) (r : ReqId)
    (hact : r ∈ s.activeI) (hl : LeadsR s1 s') (pv : Addr) (code : Nat) (out : OutKind) :
    r ∉ s'.activeI ∧ (respond s' r pv code out).2.1 ≠ .ok := by
  have hsp := spent_leadsR hc (ReachableR.restart height time hr hre) hl r
    (spent_of_pending_at_restart (reachableR_invAll hc hr) hre r hact)
  exact ⟨hsp.1, fun h => hsp.1 (accepted_response_was_pending s' r pv code out h)⟩

end SM.C02
