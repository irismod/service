import ServiceModel.Proofs.Frames
import ServiceModel.Proofs.MonitorSound
import ServiceModel.Proofs.ModSvc
import ServiceModel.Proofs.RestartStable
/-!
# C03 — Binding deposits stay in custody and leave only by the rules
-/
namespace SM.C03

/-- The deposit account always holds exactly the sum of the recorded deposits. -/
theorem deposit_backed {cfg : Config} {p : Params} {h0 t0 : Int} (hc : CfgOK cfg p) {s : State}
    (hr : Reachable cfg p h0 t0 s) :
    s.bal s.cfg.deposit = depositSum s := (reachable_inv hc hr).b.backed

/-- A refund is accepted exactly when the signer owns the binding, the binding is unavailable, its deposit
    is non-zero and the block time has reached disabling time + arbitration + complaint periods
    (the bank transfer cannot fail, because the deposit account is backed). -/
theorem refund_ok_iff {cfg : Config} {p : Params} {h0 t0 : Int} (hc : CfgOK cfg p) {s : State}
    (hr : Reachable cfg p h0 t0 s) (svc : SvcName) (prov o : Addr) :
    (refund s svc prov o).2.1 = .ok ↔
      ∃ b, Map.get s.bindings (svc, prov) = some b ∧ o = b.owner ∧ b.avail = false ∧ b.deposit ≠ 0 ∧
        s.time ≥ b.disabledAt + s.params.arbitration + s.params.complaint := by
  have hB := (reachable_inv hc hr).b
  constructor
  · intro h
    obtain ⟨_, _, hm, _⟩ := (refund_msg rfl).ok h
    cases hm with
    | refund hb ho hav hpos htime => exact ⟨_, hb, ho, hav, hpos, Int.not_lt.mp htime⟩
  · rintro ⟨b, hb, h1, h2, h3, h4⟩
    have hle : b.deposit ≤ balOf s.bank.bal s.cfg.deposit := by
      rw [hB.backed]; exact Map.le_total_of_get (fun b : Binding => b.deposit) hb
    obtain ⟨bank', hs⟩ := bankSend_of_le b.owner hle
    unfold refund
    rw [hb]; dsimp only
    rw [if_neg (by simp [h1]), if_neg (by simp [h2]), if_neg h3, if_neg (by omega), hs]

/-- How a binding's deposit can change in one message: it grows only in a bind/update/enable signed by
    its owner (who is debited the same amount), and shrinks only by a refund of the whole deposit to the
    owner — shown here for `refund`: the whole deposit goes to the owner and the record is zeroed. -/
theorem refund_effect (s : State) (svc : SvcName) (prov o : Addr) (h : (refund s svc prov o).2.1 = .ok) :
    ∃ b, Map.get s.bindings (svc, prov) = some b ∧
      (refund s svc prov o).2.2 = [.transfer s.cfg.deposit b.owner b.deposit] ∧
      Map.get (refund s svc prov o).1.bindings (svc, prov) = some { b with deposit := 0 } := by
  obtain ⟨_, _, hm, he⟩ := (refund_msg rfl).ok h
  rw [he]
  cases hm with
  | refund hb => exact ⟨_, hb, rfl, Map.get_set_same _ _ _⟩

/-- A slash destroys exactly what it takes from the recorded deposit: the deposit account, the recorded
    deposit and the total supply fall by the same amount `⌊deposit × fraction⌋`. -/
theorem slash_burns {s s1 : State} {r : ReqId} {svc : SvcName} {p : Addr} {e : List Effect} {b : Binding}
    (hb : Map.get s.bindings (svc, p) = some b) (h : slash s r svc p = .done s1 e) :
    e = [.slash r p (b.deposit * s.params.slash / decUnit)] ∧
    s1.bank.supply = s.bank.supply - (b.deposit * s.params.slash / decUnit : Nat) ∧
    (∃ b1, Map.get s1.bindings (svc, p) = some b1 ∧ b1.deposit = b.deposit - b.deposit * s.params.slash / decUnit) := by
  cases Slash.of_done h with
  | unbound hn => rw [hb] at hn; cases hn
  | burnt hb' _ hburn =>
    rw [hb] at hb'; cases hb'
    exact ⟨rfl, bankBurn_supply hburn, _, Map.get_set_same _ _ _, (slashedB_spec ..).2.2.2.1⟩
  | refused hr => rw [h] at hr; cases hr

/-- A binding's deposit shrinks only by a refund, by a slash at a response, or at the end of a block (slashes of
    expired requests): every other operation keeps every existing binding with a deposit at least as large. -/
theorem deposit_lowered_only_by_refund_or_slash (s : State) (op : Op) (h : op.mayLowerDeposit = false)
    (k : SvcName × Addr) (b : Binding) (hb : Map.get s.bindings k = some b) :
    ∃ b', Map.get (step s op).1.bindings k = some b' ∧ b.deposit ≤ b'.deposit :=
  step_depRel (R := (· ≤ ·)) Nat.le_refl s op (fun _ _ _ hab => hab) (fun h' => nomatch h ▸ h') k b hb

/-- A binding's deposit grows only in an update or enable message (a bind creates the binding): every other
    operation, the end of a block included, keeps every existing binding with a deposit at most as large. The
    amount added is the one the owner is debited (`C05.update_debits_only_signer`, `enable_debits_only_signer`). -/
theorem deposit_raised_only_by_update_or_enable (s : State) (op : Op) (h : op.mayRaiseDeposit = false)
    (k : SvcName × Addr) (b : Binding) (hb : Map.get s.bindings k = some b) :
    ∃ b', Map.get (step s op).1.bindings k = some b' ∧ b'.deposit ≤ b.deposit :=
  step_depRel (R := (· ≥ ·)) Nat.le_refl s op (fun h' => nomatch h ▸ h') (fun _ _ _ hab => hab) k b hb

/-- The executable monitor `depositBacked`, which the check evaluates on every state decoded from the implementation's
    trace, is a decidable reading of this equation: it reports nothing on any reachable state of the model, so an
    alarm of it on an implementation state shows a state the model cannot reach. -/
theorem deposit_monitor_implied {cfg : Config} {p : Params} {h0 t0 : Int} (hc : CfgOK cfg p) {s : State}
    (hr : Reachable cfg p h0 t0 s) : Mon.depositBacked s = [] := depositBacked_sound (reachable_inv hc hr)

/-- The module-service branch (`keeper/module_service.go`; model `callMod`, outside `step`): from every reachable state,
    a module-service call by an ordinary account — accepted or rejected, whatever the module answers, including a
    malformed output that slashes the module's own provider — leaves the deposit account holding exactly the recorded
    deposits. One step, like `C01.escrow_backed_after_module_service_call` (DESIGN.md §10.10). -/
theorem deposit_backed_after_module_service_call {cfg : Config} {p : Params} {h0 t0 : Int} (hc : CfgOK cfg p) {s : State}
    (hr : Reachable cfg p h0 t0 s) (id : CtxId) (svc : SvcName) (prov cons : Addr) (cap : Option Nat) (inputOk : Bool)
    (code : Nat) (out : OutKind) (hcons : ¬ s.modAcct cons) :
    (callMod s id svc prov cons cap inputOk code out).1.bal (callMod s id svc prov cons cap inputOk code out).1.cfg.deposit =
      depositSum (callMod s id svc prov cons cap inputOk code out).1 :=
  (callMod_invB s id svc prov cons cap inputOk code out (reachable_inv hc hr) hcons).backed

/-- The same on chains that go through any number of zero-height restarts: the deposit account holds exactly the
    recorded deposits in every state, and a restart itself leaves every recorded deposit — and the deposit account —
    as it was (the preparation moves coins of the request escrow only). -/
theorem deposit_backed_across_restarts {cfg : Config} {p : Params} {h0 t0 : Int} (hc : CfgOK cfg p) {s : State}
    (hr : ReachableR cfg p h0 t0 s) :
    s.bal s.cfg.deposit = depositSum s ∧
    ∀ height time s', restart s height time = some s' →
      (∀ k, Map.get s'.bindings k = Map.get s.bindings k) ∧ s'.bal s'.cfg.deposit = depositSum s' := by
  refine ⟨(reachableR_invAll hc hr).inv.b.backed, ?_⟩
  intro height time s' hre
  obtain ⟨h1, h2⟩ := restart_sameRecords (reachableR_invAll hc hr) hre
  exact ⟨h1.bindings, h2.inv.b.backed⟩

end SM.C03
