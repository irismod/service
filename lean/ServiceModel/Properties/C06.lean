import ServiceModel.Proofs.IssueSpec
/-!
# C06 — Requests go only to eligible providers, within the consumer's fee cap
-/
namespace SM.C06

/-- A provider is eligible exactly when it is named in the context and has an available binding for the service whose
    committed response time does not exceed the timeout and whose current price does not exceed the fee cap. -/
theorem eligible_iff (s : State) (x : Ctx) (pv : Addr) (price : Nat) :
    (pv, price) ∈ eligible s x ↔
      pv ∈ x.provs ∧ ∃ b, Map.get s.bindings (x.svc, pv) = some b ∧ b.avail = true ∧ (b.qos : Int) ≤ x.timeout ∧
        price = priceOf (storedPricing s x.svc pv) s.time ((Map.get s.volume (x.cons, x.svc, pv)).getD 0) ∧ price ≤ x.cap :=
  mem_eligible s x pv price

/-- The eligible providers keep the order in which the context names them. -/
theorem eligible_order (s : State) (x : Ctx) : List.Sublist ((eligible s x).map (·.1)) x.provs := by
  unfold eligible
  induction x.provs with
  | nil => simp
  | cons a t ih =>
    simp only [List.filterMap_cons]
    split
    · exact List.Sublist.cons _ ih
    · rename_i b hb
      have : b.1 = a := by
        split at hb; · cases hb
        split at hb
        · split at hb
          · cases hb; rfl
          · cases hb
        · cases hb
      simp only [List.map_cons, this]
      exact List.Sublist.cons_cons _ ih

/-- When a batch is issued, the requests created go to exactly the given providers, in order, and carry the given
    prices as fees (none in super mode). -/
theorem issued_requests_are_exactly (c : CtxId) (x : Ctx) (height : Int) (el : List (Addr × Nat)) (i : Nat) :
    (issuedPairs c x height el i).map (fun pq => (pq.2.prov, pq.2.fee)) = el.map (fun e => (e.1, if x.super then 0 else e.2)) ∧
    (issuedPairs c x height el i).map (fun pq => pq.1.index) = List.range' i el.length := by
  induction el generalizing i with
  | nil => simp [issuedPairs]
  | cons hd t ih =>
    obtain ⟨h1, h2⟩ := ih (i + 1)
    simp only [issuedPairs, List.map_cons, List.length_cons, List.range'_succ, h1, h2, and_self]

/-- Decision law, skip: fewer eligible providers than the threshold (or none) → the batch is skipped: the counter
    advances, no request is created, nobody is charged. -/
theorem batch_skipped (s : State) (c : CtxId) (x : Ctx)
    (hfew : ¬ ((eligible s x).length > 0 ∧ (eligible s x).length ≥ x.thr)) :
    (startOrSkip s c x).2 = [] ∧ (startOrSkip s c x).1.reqs = s.reqs ∧ (startOrSkip s c x).1.bank = s.bank ∧
    Map.get (startOrSkip s c x).1.ctxs c = some { x with batch := x.batch + 1, bstate := .running, reqN := 0, respN := 0, bthr := x.thr } := by
  unfold startOrSkip
  rw [if_neg hfew]
  exact ⟨rfl, rfl, rfl, Map.get_set_same _ _ _⟩

/-- Decision law, pause: enough eligible providers but the consumer cannot pay the total → the context is paused,
    with no requests, no charge and the counter unchanged. -/
theorem batch_paused_unfunded (s : State) (c : CtxId) (x : Ctx) (hsuper : x.super = false)
    (hel : (eligible s x).length > 0 ∧ (eligible s x).length ≥ x.thr)
    (hpoor : s.bal x.cons < sumPrices (eligible s x)) :
    (startOrSkip s c x).1.reqs = s.reqs ∧ (startOrSkip s c x).1.bank = s.bank ∧
    Map.get (startOrSkip s c x).1.ctxs c = some { x with bstate := .completed, state := .paused } := by
  have hnone : bankSend s.bank x.cons s.cfg.escrow (sumPrices (eligible s x)) = none := if_pos hpoor
  unfold startOrSkip
  rw [if_pos hel, if_neg (by simp [hsuper]), hnone]
  exact ⟨rfl, rfl, Map.get_set_same _ _ _⟩

/-- Decision law, issue: enough eligible providers and a solvent consumer → one debit of the total, then the batch. -/
theorem batch_issued (s : State) (c : CtxId) (x : Ctx) (hsuper : x.super = false)
    (hel : (eligible s x).length > 0 ∧ (eligible s x).length ≥ x.thr)
    (hrich : sumPrices (eligible s x) ≤ s.bal x.cons) :
    ∃ bank', bankSend s.bank x.cons s.cfg.escrow (sumPrices (eligible s x)) = some bank' ∧
      startOrSkip s c x = issueBatch s bank' c x (eligible s x)
        (if sumPrices (eligible s x) = 0 then [] else [.transfer x.cons s.cfg.escrow (sumPrices (eligible s x))]) := by
  obtain ⟨bank', hb⟩ := bankSend_of_le s.cfg.escrow hrich
  refine ⟨bank', hb, ?_⟩
  unfold startOrSkip
  rw [if_pos hel, if_neg (by simp [hsuper]), hb]

/-- No request ever carries a fee above the cap in force when it was issued. -/
theorem fee_within_cap (s : State) (c : CtxId) (x : Ctx) (i : Nat) (r : ReqId) (q : Req)
    (h : (r, q) ∈ issuedPairs c x s.height (eligible s x) i) : q.fee ≤ x.cap := by
  obtain ⟨_, pv, pr, hk, -, rfl⟩ := mem_issuedPairs h
  obtain ⟨-, _, -, -, -, -, hcap⟩ := (eligible_iff s x pv pr).mp (List.mem_of_getElem? hk)
  split
  · exact Nat.zero_le _
  · exact hcap

end SM.C06
