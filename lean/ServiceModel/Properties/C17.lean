import ServiceModel.Proofs.Reachable
import ServiceModel.Model.Query
import ServiceModel.Proofs.StoreKeys
import ServiceModel.Basic.Scan
/-!
# C17 — Queries return exactly the stored state

`query` (Model/Query.lean) computes each answer the way the keeper does: point lookups, or a scan of a
store range / an index followed by lookups. The theorems say that in every reachable state the answer is
exactly the set of stored records of the query's subject. Both interfaces are tied to `query` by the
correspondence run (ops `query via=grpc|legacy`); that they agree with each other is a consequence of
that tie, not a theorem (the model has one function).
-/
namespace SM.C17
open Map

variable {cfg : Config} {p : Params} {h0 t0 : Int}

theorem definition_exact (s : State) (name : SvcName) :
    query s (.definition name) =
      match get s.defs name with | some d => .ok (.defn name d) | none => .error .unknownDefinition := by
  simp only [query]; cases get s.defs name <;> rfl

theorem binding_exact (s : State) (svc : SvcName) (prov : Addr) :
    query s (.binding svc prov) =
      match get s.bindings (svc, prov) with | some b => .ok (.bindings [((svc, prov), b)]) | none => .error .unknownBinding := by
  simp only [query]; cases get s.bindings (svc, prov) <;> rfl

/-- the withdrawal address is the stored one, and the owner itself when none was set -/
theorem withdraw_exact (s : State) (owner : Addr) :
    query s (.withdraw owner) = .ok (.withdraw owner (match get s.withdraw owner with | some a => a | none => owner)) := by
  simp only [query]; cases get s.withdraw owner <;> rfl

theorem context_response_fees_params_exact (s : State) (c : CtxId) (r : ReqId) (prov : Addr) :
    query s (.context c) = .ok (.context c (get s.ctxs c)) ∧
    query s (.response r) = .ok (.response r (get s.resps r)) ∧
    query s (.fees prov) = .ok (.fees prov (match get s.earned prov with | some n => n | none => 0)) ∧
    query s .params = .ok (.params s.params) := by
  refine ⟨rfl, rfl, ?_, rfl⟩
  simp only [query]; cases get s.earned prov <;> rfl

/-- a request is rebuilt from its compact record and its context -/
theorem request_reconstructed (hc : CfgOK cfg p) {s : State} (hr : Reachable cfg p h0 t0 s)
    (r : ReqId) (q : Req) (hq : get s.reqs r = some q) :
    ∃ x, get s.ctxs r.ctx = some x ∧ r.batch = x.batch ∧
      query s (.request r) = .ok (.requests [some { id := r, svc := x.svc, prov := q.prov, cons := x.cons, fee := q.fee,
                                                    super := x.super, reqH := q.reqH, expH := q.expH }]) := by
  obtain ⟨x, hx, hb, _⟩ := (reachable_inv hc hr).x.reqCtx r q hq
  exact ⟨x, hx, hb, by simp only [query, reqView_of hq hx]⟩

/-- an unknown request id yields the zero request (the code ignores `found`) -/
theorem request_unknown (s : State) (r : ReqId) (hq : get s.reqs r = none) :
    query s (.request r) = .ok (.requests [none]) := by
  simp only [query, reqView, hq]

/-- all bindings of a service: exactly the stored bindings whose key carries that service name -/
theorem bindings_of_service_exact (s : State) (svc : SvcName) :
    ∃ l, query s (.bindings svc "") = .ok (.bindings l) ∧
      ∀ k b, (k, b) ∈ l ↔ (k.1 = svc ∧ get s.bindings k = some b) := by
  refine ⟨(entries s.bindings).filter (fun e => e.1.1 = svc), ?_, ?_⟩
  · simp only [query, if_true]
  · intro k b
    simp only [List.mem_filter, mem_entries, decide_eq_true_eq]
    exact and_comm

theorem mem_ownerBindings {s : State} (hb : InvB s) {owner : Addr} {svc : SvcName} (k : SvcName × Addr) (b : Binding) :
    (k, b) ∈ ownerBindings s owner svc ↔ (k.1 = svc ∧ get s.bindings k = some b ∧ b.owner = owner) := by
  unfold ownerBindings
  simp only [List.mem_filterMap, List.mem_filter, FSet.mem_elems, decide_eq_true_eq, Option.map_eq_some_iff]
  constructor
  · rintro ⟨⟨o, sv, pv⟩, ⟨hmem, rfl, rfl⟩, b', hget, heq⟩
    cases heq
    obtain ⟨b2, hb2, hown⟩ := (hb.bindIdx o sv pv).mp hmem
    cases hget.symm.trans hb2
    exact ⟨rfl, hget, hown⟩
  · rintro ⟨rfl, hget, rfl⟩
    exact ⟨(b.owner, k.1, k.2), ⟨(hb.bindIdx b.owner k.1 k.2).mpr ⟨b, hget, rfl⟩, rfl, rfl⟩, b, hget, rfl⟩

/-- the bindings of a service owned by one owner (answered from the owner index): exactly the stored bindings
    of that service whose owner field is that owner -/
theorem bindings_of_owner_exact (hc : CfgOK cfg p) {s : State} (hr : Reachable cfg p h0 t0 s)
    (svc : SvcName) (owner : Addr) (ho : owner ≠ "") :
    ∃ l, query s (.bindings svc owner) = .ok (.bindings l) ∧
      ∀ k b, (k, b) ∈ l ↔ (k.1 = svc ∧ get s.bindings k = some b ∧ b.owner = owner) :=
  ⟨ownerBindings s owner svc, if_neg ho, mem_ownerBindings (reachable_inv hc hr).b⟩

/-- the pending requests of a binding (answered from the index 0x14): exactly the pending requests whose context
    names that service and whose provider is that provider, each rebuilt correctly, and no zero request among them -/
theorem pending_requests_exact (hc : CfgOK cfg p) {s : State} (hr : Reachable cfg p h0 t0 s)
    (svc : SvcName) (prov : Addr) :
    ∃ l, query s (.requests svc prov) = .ok (.requests l) ∧ none ∉ l ∧
      ∀ v, some v ∈ l ↔ (v.id ∈ s.activeI ∧ reqView s v.id = some v ∧ v.svc = svc ∧ v.prov = prov) := by
  have hx := (reachable_inv hc hr).x
  refine ⟨((FSet.elems s.activeB).filter (fun e => e.1 = svc ∧ e.2.1 = prov)).map (fun e => reqView s e.2.2.2), rfl, ?_, ?_⟩
  · simp only [List.mem_map, List.mem_filter, FSet.mem_elems, decide_eq_true_eq, not_exists, not_and]
    rintro ⟨sv, pv, e, r⟩ ⟨hmem, _⟩
    obtain ⟨_, q, x, hq, hxx, _⟩ := (hx.activeMirror sv pv e r).mp hmem
    rw [reqView_of hq hxx]; nofun
  · intro v
    simp only [List.mem_map, List.mem_filter, FSet.mem_elems, decide_eq_true_eq]
    constructor
    · rintro ⟨⟨sv, pv, e, r⟩, ⟨hmem, rfl, rfl⟩, hv⟩
      obtain ⟨hact, q, x, hq, hxx, rfl, rfl, _⟩ := (hx.activeMirror sv pv e r).mp hmem
      cases (reqView_of hq hxx).symm.trans hv
      exact ⟨hact, hv, rfl, rfl⟩
    · rintro ⟨hact, hv, rfl, rfl⟩
      obtain ⟨q, x, hq, hxx, -, -⟩ := hx.pending hact
      have e := Option.some.inj (hv.symm.trans (reqView_of hq hxx))
      exact ⟨(v.svc, v.prov, q.expH, v.id),
        ⟨(hx.activeMirror ..).mpr ⟨hact, q, x, hq, hxx, congrArg (·.svc) e, congrArg (·.prov) e, rfl⟩, rfl, rfl⟩, hv⟩

/-- the requests of a batch: exactly the stored request records whose id carries that context and batch number,
    each rebuilt correctly, and no zero request among them -/
theorem requests_of_batch_exact (hc : CfgOK cfg p) {s : State} (hr : Reachable cfg p h0 t0 s) (c : CtxId) (batch : Nat) :
    ∃ l, query s (.requestsByCtx c batch) = .ok (.requests l) ∧ none ∉ l ∧
      ∀ v, some v ∈ l ↔ ((get s.reqs v.id).isSome ∧ v.id.ctx = c ∧ v.id.batch = batch ∧ reqView s v.id = some v) := by
  have hx := (reachable_inv hc hr).x
  refine ⟨((entries s.reqs).filter (fun e => e.1.ctx = c ∧ e.1.batch = batch)).map (fun e => reqView s e.1), rfl, ?_, ?_⟩
  · simp only [List.mem_map, List.mem_filter, decide_eq_true_eq, not_exists, not_and]
    rintro ⟨r, q⟩ ⟨hmem, _⟩
    have hq := (mem_entries s.reqs r q).mp hmem
    obtain ⟨x, hxx, _, _⟩ := hx.reqCtx r q hq
    rw [reqView_of hq hxx]; nofun
  · intro v
    simp only [List.mem_map, List.mem_filter, decide_eq_true_eq]
    constructor
    · rintro ⟨⟨r, q⟩, ⟨hmem, h1, h2⟩, hv⟩
      have hq := (mem_entries s.reqs r q).mp hmem
      obtain ⟨x, hxx, _, _⟩ := hx.reqCtx r q hq
      cases (reqView_of hq hxx).symm.trans hv
      exact ⟨by rw [hq]; rfl, h1, h2, hv⟩
    · rintro ⟨hsome, h1, h2, hv⟩
      obtain ⟨q, hq⟩ := Option.isSome_iff_exists.mp hsome
      exact ⟨(v.id, q), ⟨(mem_entries s.reqs v.id q).mpr hq, h1, h2⟩, hv⟩

/-- the responses of a batch: exactly the stored responses whose request id carries that context and batch number -/
theorem responses_of_batch_exact (s : State) (c : CtxId) (batch : Nat) :
    ∃ l, query s (.responses c batch) = .ok (.responses l) ∧
      ∀ r x, (r, x) ∈ l ↔ (get s.resps r = some x ∧ r.ctx = c ∧ r.batch = batch) := by
  refine ⟨(entries s.resps).filter (fun e => e.1.ctx = c ∧ e.1.batch = batch), rfl, ?_⟩
  intro r x
  simp only [List.mem_filter, mem_entries, decide_eq_true_eq]

/-- queries do not depend on anything but the stored records: they are a function of the state alone and
    (being pure) cannot change it; the harness checks the latter on the real store after every query -/
theorem query_is_function_of_state (s1 s2 : State) (q : Query)
    (h : s1.defs = s2.defs ∧ s1.bindings = s2.bindings ∧ s1.ownerBind = s2.ownerBind ∧ s1.withdraw = s2.withdraw ∧
         s1.ctxs = s2.ctxs ∧ s1.reqs = s2.reqs ∧ s1.activeB = s2.activeB ∧ s1.resps = s2.resps ∧
         s1.earned = s2.earned ∧ s1.params = s2.params) :
    query s1 q = query s2 q := by
  obtain ⟨h1, h2, h3, h4, h5, h6, h7, h8, h9, h10⟩ := h
  cases q <;> simp only [query, ownerBindings, reqView, h1, h2, h3, h4, h5, h6, h7, h8, h9, h10]

/-- the schema query answers from the module's two constants alone: the pricing schema for the name `pricing`, the
    result schema for `result` (in any letter case), a refusal for every other name — in every state, reachable or not -/
theorem schema_exact (s : State) (name : String) :
    query s (.schema name) =
      (if name.toLower = "pricing" then .ok (.schema .pricing)
       else if name.toLower = "result" then .ok (.schema .result) else .error .invalidSchemaName) := rfl

/-- The model state is a faithful store. `Map` is an association list with first-match lookup; the module's store
    holds one value per key. In every state of every chain (any operations, any number of restarts) every record map has
    one record per key and every index set lists each entry once (`Keys1`), so a scan of a record kind — what the
    listing queries, the export and the raw-list monitors walk over — is exactly what the point lookups see:
    `(k, v)` is an entry of the list iff `get k = some v`. -/
theorem store_has_one_record_per_key {s : State} (hr : ReachableR cfg p h0 t0 s) :
    Keys1 s ∧
    (∀ r q, (r, q) ∈ s.reqs ↔ Map.get s.reqs r = some q) ∧
    (∀ r q, (r, q) ∈ s.resps ↔ Map.get s.resps r = some q) ∧
    (∀ k b, (k, b) ∈ s.bindings ↔ Map.get s.bindings k = some b) ∧
    (∀ c x, (c, x) ∈ s.ctxs ↔ Map.get s.ctxs c = some x) ∧
    (∀ n d, (n, d) ∈ s.defs ↔ Map.get s.defs n = some d) := by
  have k := keys1_reachableR hr
  exact ⟨k, mem_iff_get k.reqs, mem_iff_get k.resps, mem_iff_get k.bindings, mem_iff_get k.ctxs, mem_iff_get k.defs⟩

end SM.C17
