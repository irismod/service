import ServiceModel.Proofs.Reachable
import ServiceModel.Proofs.OneShot
import ServiceModel.Proofs.Cadence
import ServiceModel.Proofs.GhostRestart
/-!
# C10 — Repeated invocations keep their cadence and respect their total (state part)
-/
namespace SM.C10

variable {cfg : Config} {p : Params} {h0 t0 : Int}

/-- A context never has two batches in flight: it never has a new-batch event and an expiry event at once. -/
theorem single_flight (hc : CfgOK cfg p) {s : State} (hr : Reachable cfg p h0 t0 s) (c : CtxId) :
    Map.get s.newH c = none ∨ Map.get s.expH c = none := (reachable_inv hc hr).x.single c

/-- A repeated context's frequency is never below its timeout, so the next batch
    (queued at expiry − timeout + frequency) never starts before the previous one has expired. -/
theorem frequency_not_below_timeout (hc : CfgOK cfg p) {s : State} (hr : Reachable cfg p h0 t0 s)
    (c : CtxId) (x : Ctx) (hx : Map.get s.ctxs c = some x) : 1 ≤ x.timeout ∧ (x.rep = true → x.timeout ≤ (x.freq : Int)) :=
  (reachable_inv hc hr).x.ctxWF c x hx

/-- The first batch is queued for the block that contains the call: an accepted call leaves a new-batch event
    at the current height. -/
theorem first_batch_queued_at_call_height (s : State) (id : CtxId) (svc : SvcName) (provs : List Addr) (cons : Addr)
    (cap : Option Nat) (timeout : Int) (super rep : Bool) (freq : Nat) (total : Int) (inputOk : Bool)
    (h : (createCtx s id "" svc provs cons cap timeout super rep freq total inputOk true 0).2.1 = .ok) :
    Map.get (createCtx s id "" svc provs cons cap timeout super rep freq total inputOk true 0).1.newH id = some s.height := by
  obtain ⟨e, s', hm, he⟩ := (modcreate_msg (s := s) rfl).ok h
  rw [he]
  cases hm with | modcreate _ => exact Map.get_set_same _ _ _

/-- When a batch expires while the context is running, the next batch is queued exactly `frequency` blocks after
    the start of the expired one (expiry height − timeout + frequency), or the context is finished. -/
theorem next_batch_height (s : State) (c : CtxId) (x1 : Ctx) (hrun : x1.state = .running)
    (hmore : x1.rep = true ∧ (x1.total < 0 ∨ (x1.batch : Int) < x1.total)) :
    Map.get (expireTail s c x1).1.newH c = some (s.height - x1.timeout + x1.freq) := by
  simp only [expireTail, hrun, if_pos hmore, cleanBatch, addNewQ]
  exact Map.get_set_same _ _ _

/-- Cadence: a batch that started at height `H` expires at `H + timeout` (`issueBatch` queues the expiry there,
    `C06.batch_issued`); when that expiry is handled for a context that is still running with more batches to
    come, the next batch is queued for `H + frequency` — consecutive batches start exactly `frequency` blocks apart. -/
theorem next_batch_is_frequency_after_start (s : State) (c : CtxId) (x1 : Ctx) (H : Int) (hH : s.height = H + x1.timeout)
    (hrun : x1.state = .running) (hmore : x1.rep = true ∧ (x1.total < 0 ∨ (x1.batch : Int) < x1.total)) :
    Map.get (expireTail s c x1).1.newH c = some (H + x1.freq) := by
  rw [next_batch_height s c x1 hrun hmore, hH]
  congr 1; omega

/-- A running repeated context whose total is reached is finished when its batch expires: no further batch is queued. -/
theorem total_reached_finishes (s : State) (c : CtxId) (x1 : Ctx) (hrun : x1.state = .running)
    (hdone : ¬ (x1.rep = true ∧ (x1.total < 0 ∨ (x1.batch : Int) < x1.total))) :
    Map.get (expireTail s c x1).1.ctxs c = none ∧ (expireTail s c x1).1.newH = s.newH := by
  -- flattened first: `rfl` through the nest of the model's helpers is slow
  simp only [expireTail, hrun, if_neg hdone, cleanBatch, delCtx, setCtx, delExpQ]
  exact ⟨Map.get_del_same _ _, trivial⟩

/-- The new-batch handler never issues a batch beyond the total: a running repeated context whose counter has
    reached a non-negative total is completed instead (this is the repaired behaviour, defect D3). -/
theorem no_batch_beyond_total (s : State) (c : CtxId) (x : Ctx) (hq : (s.height, c) ∈ s.newQ) (hx : Map.get s.ctxs c = some x)
    (hrun : x.state = .running) (hrep : x.rep = true) (htot : x.total ≥ 0) (hreached : (x.batch : Int) ≥ x.total) :
    Map.get (newBatch s c).s.ctxs c = none ∧ (newBatch s c).s.reqs = s.reqs := by
  obtain ⟨hn, -⟩ | ⟨-, -, hn⟩ := newBatch_cases s c
  · exact absurd hq hn
  · generalize (newBatch s c).s = s', (newBatch s c).effs = e at hn ⊢
    have hd : x.done := ⟨hrun, hrep, htot, hreached⟩
    cases hn with
    | finish => exact ⟨Map.get_del_same _ _, rfl⟩
    | lost hx' => cases hx.symm.trans hx'
    | drop hx' hnr => cases hx.symm.trans hx'; exact absurd hrun hnr
    | issue hx' _ hnd | unfunded hx' _ hnd | skip hx' _ hnd => cases hx.symm.trans hx'; exact absurd hd hnd

/-- Over every history: a repeated context with a positive total never has had more batches (issued or skipped) than
    that total — an invariant of all reachable states. An update can lower the total only down to the number of
    batches already had (`updateK` rejects a positive total below the counter), so this is the bound "by the largest
    total ever in force" at every moment. -/
theorem batches_never_exceed_total (hc : CfgOK cfg p) {s : State} (hr : Reachable cfg p h0 t0 s)
    (c : CtxId) (x : Ctx) (hx : Map.get s.ctxs c = some x) (hrep : x.rep = true) (hpos : 0 < x.total) :
    (x.batch : Int) ≤ x.total := totBoundedR hc hr.toR c x hx hrep hpos

/-- Over every history: a one-shot (non-repeated) context never gets more than one batch — an invariant of all
    reachable states; its counter is still 0 while it waits for its batch or is paused for lack of funds. -/
theorem one_shot_at_most_one_batch (hc : CfgOK cfg p) {s : State} (hr : Reachable cfg p h0 t0 s)
    (c : CtxId) (x : Ctx) (hx : Map.get s.ctxs c = some x) (hrep : x.rep = false) :
    x.batch ≤ 1 ∧ (((Map.get s.newH c).isSome ∨ x.state = .paused) → x.batch = 0) :=
  kinv_reachable hc hr c x hx hrep

/-! ### cadence over whole histories

`GReach` runs the machine together with a ghost observer (`Proofs/Cadence.lean`, `gstep`): whenever the new-batch
handler advances a context's batch counter (a batch is issued or skipped) at height `h`, the observer records
`last c := h`; the record is dropped by an accepted pause / start / kill / update aimed at `c` and when the
handler does not start a batch for its due entry (the context is paused for lack of funds, is not running, or is
finished) — i.e. it is kept exactly while the context stayed running with unchanged timeout and frequency.
When a batch starts for a context with a record `L` at a height other than `L + frequency`, the observer raises
`bad`. The observer never influences the state (`GReach.state_reachable`, `reachable_has_ghost`). -/

/-- Cadence, over every history: a batch of a context that stayed running with unchanged timeout and frequency
    since its previous batch never starts anywhere but exactly `frequency` blocks after that previous batch. -/
theorem cadence_never_broken (hc : CfgOK cfg p) {s : State} {g : Ghost} (hr : GReach cfg p h0 t0 s g) :
    g.bad = false := (cad_reachable hc hr).1

/-- … and in between, such a context is running and on schedule: its batch started at `L` expires at `L + timeout`,
    or (after that expiry) its next batch is queued for `L + frequency`. -/
theorem tracked_context_on_schedule (hc : CfgOK cfg p) {s : State} {g : Ghost} (hr : GReach cfg p h0 t0 s g)
    (c : CtxId) (L : Int) (x : Ctx) (hL : Map.get g.last c = some L) (hx : Map.get s.ctxs c = some x) :
    x.state = .running ∧
      (Map.get s.expH c = some (L + x.timeout) ∨ Map.get s.newH c = some (L + (x.freq : Int))) :=
  ((cad_reachable hc hr).2 c L hL).2 x hx

/-- The handler-level fact behind it: in a state satisfying the invariants, with every tracked context on schedule,
    the new-batch handler of any queue entry leaves the flag down. -/
theorem new_batch_handler_keeps_cadence (s : State) (c : CtxId) (h : Inv s) (g : Ghost) (hk : CadOK s g) :
    (gNew g s c).bad = false := (newBatch_cad s c h g hk).1

/-! ### cadence over chains that go through zero-height restarts

`GReachR` is `GReach` with one more constructor: a restart, at which the observer forgets every recorded start (the
restart pauses every context and cancels the batch in flight; the consumer has to start the context again, and the
batch it then gets is not bound to the schedule of the old chain) and keeps its flag. -/

/-- Cadence over every chain with any number of restarts: the flag is never raised. -/
theorem cadence_never_broken_across_restarts (hc : CfgOK cfg p) {s : State} {g : Ghost}
    (hr : GReachR cfg p h0 t0 s g) : g.bad = false := (cad_reachableR hc hr).1

/-- … and a tracked context of such a chain is running and on schedule. -/
theorem tracked_context_on_schedule_across_restarts (hc : CfgOK cfg p) {s : State} {g : Ghost}
    (hr : GReachR cfg p h0 t0 s g) (c : CtxId) (L : Int) (x : Ctx) (hL : Map.get g.last c = some L)
    (hx : Map.get s.ctxs c = some x) :
    x.state = .running ∧
      (Map.get s.expH c = some (L + x.timeout) ∨ Map.get s.newH c = some (L + (x.freq : Int))) :=
  ((cad_reachableR hc hr).2 c L hL).2 x hx

/-- Every state of a chain with restarts is observed (the observer does not restrict the chain). -/
theorem every_chain_with_restarts_is_observed {s : State} (hr : ReachableR cfg p h0 t0 s) :
    ∃ g, GReachR cfg p h0 t0 s g := reachableR_has_ghost hr

/-- The state clauses over chains with restarts: never two batches in flight … -/
theorem single_flight_across_restarts (hc : CfgOK cfg p) {s : State} (hr : ReachableR cfg p h0 t0 s) (c : CtxId) :
    Map.get s.newH c = none ∨ Map.get s.expH c = none := (reachableR_invAll hc hr).inv.x.single c

/-- … and a repeated context with a positive total never has had more batches (issued or skipped) than that total:
    a restart gives the context back with the counter it had — the batch it cancels stays counted. (The *one-shot*
    clause `one_shot_at_most_one_batch` is not restated: a one-shot context whose only batch a restart cancelled can be
    started again on the new chain and is then served — and charged — once; DESIGN.md §10.9.) -/
theorem batches_never_exceed_total_across_restarts (hc : CfgOK cfg p) {s : State} (hr : ReachableR cfg p h0 t0 s)
    (c : CtxId) (x : Ctx) (hx : Map.get s.ctxs c = some x) (hrep : x.rep = true) (hpos : 0 < x.total) :
    (x.batch : Int) ≤ x.total := totBoundedR hc hr c x hx hrep hpos

end SM.C10
