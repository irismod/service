set_option linter.unusedSectionVars false
/-!
# Association-list maps and sets (core Lean only)

`Map κ ν` is a list of pairs with first-match lookup. `set` replaces the first match in
place (or appends), `del` removes every match. `get_set`/`get_del` hold unconditionally;
`total_set` holds unconditionally; `total_del` needs duplicate-free keys (`NodupKeys`),
which `set`/`del` preserve.
-/
namespace SM

abbrev Map (κ ν : Type) := List (κ × ν)

namespace Map
variable {κ ν : Type} [DecidableEq κ]

def get (m : Map κ ν) (k : κ) : Option ν :=
  match m with
  | [] => none
  | (k', v) :: t => if k' = k then some v else get t k

def set (m : Map κ ν) (k : κ) (v : ν) : Map κ ν :=
  match m with
  | [] => [(k, v)]
  | (k', v') :: t => if k' = k then (k, v) :: t else (k', v') :: set t k v

def del (m : Map κ ν) (k : κ) : Map κ ν :=
  match m with
  | [] => []
  | (k', v') :: t => if k' = k then del t k else (k', v') :: del t k

def has (m : Map κ ν) (k : κ) : Bool := (get m k).isSome

def keys (m : Map κ ν) : List κ := m.map (·.1)

@[simp] theorem get_nil (k : κ) : get ([] : Map κ ν) k = none := rfl

theorem get_set (m : Map κ ν) (k k2 : κ) (v : ν) :
    get (set m k v) k2 = if k = k2 then some v else get m k2 := by
  induction m with
  | nil => simp [set, get]
  | cons hd t ih =>
    obtain ⟨k', v'⟩ := hd
    by_cases hk : k' = k
    · subst hk; by_cases hk2 : k' = k2 <;> simp [set, get, hk2]
    · by_cases hk2 : k' = k2
      · subst hk2; simp [set, get, hk, Ne.symm hk]
      · simp [set, get, hk, hk2, ih]

theorem get_del (m : Map κ ν) (k k2 : κ) :
    get (del m k) k2 = if k = k2 then none else get m k2 := by
  induction m with
  | nil => simp [del, get]
  | cons hd t ih =>
    obtain ⟨k', v'⟩ := hd
    by_cases hk : k' = k
    · subst hk
      by_cases hk2 : k' = k2
      · subst hk2; simp [del, ih]
      · simp [del, get, hk2, ih]
    · by_cases hk2 : k' = k2
      · subst hk2; simp [del, get, hk, Ne.symm hk]
      · simp [del, get, hk, hk2, ih]

@[simp] theorem get_set_same (m : Map κ ν) (k : κ) (v : ν) : get (set m k v) k = some v := by
  rw [get_set, if_pos rfl]

theorem get_set_other (m : Map κ ν) (k k2 : κ) (v : ν) (h : k ≠ k2) : get (set m k v) k2 = get m k2 := by
  rw [get_set, if_neg h]

@[simp] theorem get_del_same (m : Map κ ν) (k : κ) : get (del m k) k = none := by rw [get_del, if_pos rfl]

theorem get_del_other (m : Map κ ν) (k k2 : κ) (h : k ≠ k2) : get (del m k) k2 = get m k2 := by
  rw [get_del, if_neg h]

theorem isSome_set (m : Map κ ν) (k k2 : κ) (v : ν) (h : (get m k2).isSome) :
    (get (set m k v) k2).isSome := by
  rw [get_set]; split
  · rfl
  · exact h

theorem get_set_some {m : Map κ ν} {k k2 : κ} {v w : ν} (h : get (set m k v) k2 = some w) :
    (k = k2 ∧ w = v) ∨ (k ≠ k2 ∧ get m k2 = some w) := by
  rw [get_set] at h
  split at h
  · exact .inl ⟨‹_›, (Option.some.inj h).symm⟩
  · exact .inr ⟨‹_›, h⟩

/-- lookup after `set`: either the new value at the key, or an old value -/
theorem get_set_cases {m : Map κ ν} {k k2 : κ} {v w : ν}
    (h : get (set m k v) k2 = some w) : (k = k2 ∧ w = v) ∨ get m k2 = some w :=
  (get_set_some h).imp id And.right

theorem get_del_some {m : Map κ ν} {k k2 : κ} {w : ν}
    (h : get (del m k) k2 = some w) : k ≠ k2 ∧ get m k2 = some w := by
  rw [get_del] at h
  split at h
  · simp at h
  · exact ⟨by assumption, h⟩

/-- the lookup after a deletion that a guard `P` (which holds) decided on -/
theorem get_del_if (m : Map κ ν) (k k2 : κ) {P : Prop} [Decidable P] (hP : P) :
    get (del m k) k2 = if k2 = k ∧ P then none else get m k2 := by
  rw [get_del]
  by_cases hk : k = k2
  · rw [if_pos hk, if_pos ⟨hk.symm, hP⟩]
  · rw [if_neg hk, if_neg fun h => hk h.1.symm]

theorem get_foldl_del (m : Map κ ν) (ids : List κ) (k : κ) :
    get (ids.foldl (fun m r => del m r) m) k = if k ∈ ids then none else get m k := by
  induction ids generalizing m with
  | nil => simp
  | cons a t ih =>
    simp only [List.foldl_cons, List.mem_cons]
    rw [ih, get_del]
    by_cases h1 : k ∈ t
    · simp [h1]
    · by_cases h2 : a = k
      · subst h2; simp
      · have : ¬ k = a := fun e => h2 e.symm
        simp [h1, h2, this]

theorem get_ite_set_other (p : Prop) [Decidable p] (m : Map κ ν) {k k2 : κ} (v : ν) (h : k ≠ k2) :
    get (if p then set m k v else m) k2 = get m k2 := by
  split
  · exact get_set_other _ _ _ _ h
  · rfl

theorem forall_set {P : κ → ν → Prop} {m : Map κ ν} {k : κ} {v : ν}
    (h : ∀ k v, get m k = some v → P k v) (hv : P k v) : ∀ k2 w, get (set m k v) k2 = some w → P k2 w := by
  intro k2 w hw
  rcases get_set_cases hw with ⟨rfl, rfl⟩ | hw
  · exact hv
  · exact h k2 w hw

theorem forall_set_same {m : Map κ ν} {k : κ} {v : ν} {P : ν → Prop} :
    (∀ y, get (set m k v) k = some y → P y) ↔ P v := by
  rw [get_set_same]
  exact ⟨fun h => h v rfl, fun h y e => Option.some.inj e ▸ h⟩

theorem forall_del_same {m : Map κ ν} {k : κ} {P : ν → Prop} (y : ν) (h : get (del m k) k = some y) : P y :=
  nomatch (get_del_same m k).symm.trans h

theorem set_get_same (m : Map κ ν) (k : κ) (v : ν) (h : get m k = some v) : set m k v = m := by
  induction m with
  | nil => cases h
  | cons hd t ih =>
    obtain ⟨k', v'⟩ := hd
    unfold get at h; unfold set
    split at h
    · cases h; subst ‹k' = k›; rw [if_pos rfl]
    · rw [if_neg ‹_›, ih h]

theorem ite_isNone_set {m : Map κ ν} {k : κ} {v : ν} (h : get m k = none ∨ get m k = some v) :
    (if (get m k).isNone then set m k v else m) = set m k v := by
  rcases h with h | h
  · rw [h]; rfl
  · rw [set_get_same m k v h, h]; rfl

theorem set_set (m : Map κ ν) (k : κ) (a b : ν) : set (set m k a) k b = set m k b := by
  induction m with
  | nil => simp [set]
  | cons hd t ih =>
    obtain ⟨k', v'⟩ := hd
    by_cases hk : k' = k
    · subst hk; simp [set]
    · simp [set, hk, ih]

theorem del_set (m : Map κ ν) (k : κ) (v : ν) : del (set m k v) k = del m k := by
  induction m with
  | nil => simp [set, del]
  | cons hd t ih =>
    obtain ⟨k', v'⟩ := hd
    by_cases hk : k' = k
    · subst hk; simp [set, del]
    · simp [set, del, hk, ih]

theorem get_mapVals {ν' : Type} (f : ν → ν') (m : Map κ ν) (k : κ) :
    get (m.map fun e => (e.1, f e.2)) k = (get m k).map f := by
  induction m with
  | nil => rfl
  | cons hd t ih =>
    obtain ⟨k', v⟩ := hd
    simp only [List.map_cons, get]
    split
    · rfl
    · exact ih

/-! ### records written one after the other under the keys `kf a` with the values `vf a` -/
section foldl_set
variable {α : Type} (kf : α → κ) (vf : α → ν)

theorem get_foldl_set_of_ne (l : List α) (m : Map κ ν) (k : κ) (h : ∀ a ∈ l, kf a ≠ k) :
    get (l.foldl (fun m a => set m (kf a) (vf a)) m) k = get m k := by
  induction l generalizing m with
  | nil => rfl
  | cons a t ih =>
    rw [List.foldl_cons, ih _ (fun a' ha' => h a' (List.mem_cons_of_mem _ ha')),
      get_set_other _ _ _ _ (h a (List.mem_cons_self ..))]

theorem get_foldl_set_of_mem (l : List α) (m : Map κ ν) (a : α) (ha : a ∈ l)
    (hsame : ∀ a' ∈ l, kf a' = kf a → vf a' = vf a) :
    get (l.foldl (fun m a => set m (kf a) (vf a)) m) (kf a) = some (vf a) := by
  induction l generalizing m a with
  | nil => cases ha
  | cons a0 t ih =>
    rw [List.foldl_cons]
    by_cases hex : ∃ a' ∈ t, kf a' = kf a
    · obtain ⟨a', ha', hk⟩ := hex
      have hv := hsame a' (List.mem_cons_of_mem _ ha') hk
      rw [← hk, ← hv]
      exact ih _ a' ha' (fun a'' ha'' hk'' => by
        rw [hv, hsame a'' (List.mem_cons_of_mem _ ha'') (hk''.trans hk)])
    · have ha0 : a = a0 := by
        rcases List.mem_cons.mp ha with h | h
        · exact h
        · exact absurd ⟨a, h, rfl⟩ hex
      subst ha0
      rw [get_foldl_set_of_ne _ _ _ _ _ (fun a' ha' hk => hex ⟨a', ha', hk⟩), get_set_same]

/-- a map is rebuilt from nothing by writing a list of records that agree with it and cover its keys -/
theorem get_foldl_set_eq (l : List α) (m : Map κ ν) (hin : ∀ a ∈ l, get m (kf a) = some (vf a))
    (hall : ∀ k, (get m k).isSome → ∃ a ∈ l, kf a = k) (k : κ) :
    get (l.foldl (fun m a => set m (kf a) (vf a)) []) k = get m k := by
  by_cases hex : ∃ a ∈ l, kf a = k
  · obtain ⟨a, ha, rfl⟩ := hex
    rw [hin a ha]
    exact get_foldl_set_of_mem kf vf l [] a ha fun a' ha' hk =>
      Option.some.inj ((hin a' ha').symm.trans (hk ▸ hin a ha))
  · rw [get_foldl_set_of_ne _ _ _ _ _ fun a ha hk => hex ⟨a, ha, hk⟩]
    exact (Option.not_isSome_iff_eq_none.mp fun hs => hex (hall k hs)).symm

end foldl_set

theorem mem_of_get (m : Map κ ν) (k : κ) (v : ν) (h : get m k = some v) : (k, v) ∈ m := by
  induction m with
  | nil => simp [get] at h
  | cons hd t ih =>
    obtain ⟨k', v'⟩ := hd
    by_cases hk : k' = k
    · subst hk; simp [get] at h; subst h; simp
    · simp [get, hk] at h; exact List.mem_cons_of_mem _ (ih h)

theorem get_isSome_iff_mem_keys (m : Map κ ν) (k : κ) : (get m k).isSome ↔ k ∈ keys m := by
  induction m with
  | nil => simp [get, keys]
  | cons hd t ih =>
    obtain ⟨k', v'⟩ := hd
    by_cases hk : k' = k
    · subst hk; simp [get, keys]
    · simp only [keys] at ih
      simp [get, keys, hk, ih]
      intro h; exact absurd h.symm hk |> False.elim

theorem get_none_iff (m : Map κ ν) (k : κ) : get m k = none ↔ k ∉ keys m := by
  rw [← get_isSome_iff_mem_keys]; cases get m k <;> simp

theorem mem_filter_keys (m : Map κ ν) (P : κ → Bool) (k : κ) :
    k ∈ (m.filter (fun p => P p.1)).map (·.1) ↔ (get m k).isSome ∧ P k = true := by
  rw [get_isSome_iff_mem_keys]
  simp only [keys, List.mem_map, List.mem_filter]
  constructor
  · rintro ⟨⟨k, v⟩, ⟨hm, hp⟩, rfl⟩
    exact ⟨⟨(k, v), hm, rfl⟩, hp⟩
  · rintro ⟨⟨⟨k, v⟩, hm, rfl⟩, hp⟩
    exact ⟨(k, v), ⟨hm, hp⟩, rfl⟩

def NodupKeys (m : Map κ ν) : Prop := (keys m).Nodup

@[simp] theorem nodupKeys_nil : NodupKeys ([] : Map κ ν) := by simp [NodupKeys, keys]

theorem keys_set_of_mem (m : Map κ ν) (k : κ) (v : ν) (h : k ∈ keys m) : keys (set m k v) = keys m := by
  induction m with
  | nil => simp [keys] at h
  | cons hd t ih =>
    obtain ⟨k', v'⟩ := hd
    by_cases hk : k' = k
    · subst hk; simp [set, keys]
    · have : k ∈ keys t := by
        simp only [keys, List.map_cons, List.mem_cons] at h
        rcases h with h | h
        · exact absurd h.symm hk
        · exact h
      simp only [keys] at ih
      simp [set, keys, hk, ih this]

theorem set_of_not_mem (m : Map κ ν) (k : κ) (v : ν) (h : k ∉ keys m) : set m k v = m ++ [(k, v)] := by
  induction m with
  | nil => rfl
  | cons hd t ih =>
    obtain ⟨k', v'⟩ := hd
    have hk : k' ≠ k := by intro e; apply h; simp [keys, e]
    have ht : k ∉ keys t := by intro e; apply h; simp only [keys, List.map_cons, List.mem_cons]; right; exact e
    simp [set, hk, ih ht]

theorem keys_set_of_not_mem (m : Map κ ν) (k : κ) (v : ν) (h : k ∉ keys m) :
    keys (set m k v) = keys m ++ [k] := by
  rw [set_of_not_mem m k v h]; simp [keys]

theorem nodupKeys_set (m : Map κ ν) (k : κ) (v : ν) (h : NodupKeys m) : NodupKeys (set m k v) := by
  unfold NodupKeys at *
  by_cases hk : k ∈ keys m
  · rw [keys_set_of_mem _ _ _ hk]; exact h
  · rw [keys_set_of_not_mem _ _ _ hk]
    rw [List.nodup_append]
    refine ⟨h, by simp, ?_⟩
    intro a ha b hb
    simp at hb; subst hb
    intro e; subst e; exact hk ha

theorem keys_del (m : Map κ ν) (k : κ) : keys (del m k) = (keys m).filter (· ≠ k) := by
  induction m with
  | nil => simp [del, keys]
  | cons hd t ih =>
    obtain ⟨k', v'⟩ := hd
    simp only [keys] at ih
    by_cases hk : k' = k
    · subst hk; simp [del, keys, ih]
    · simp [del, keys, hk, ih]

theorem nodupKeys_del (m : Map κ ν) (k : κ) (h : NodupKeys m) : NodupKeys (del m k) := by
  unfold NodupKeys at *
  rw [keys_del]
  exact List.Nodup.sublist List.filter_sublist h

theorem nodupKeys_filter (m : Map κ ν) (f : κ × ν → Bool) (h : NodupKeys m) : NodupKeys (m.filter f) :=
  List.Nodup.sublist (List.Sublist.map _ List.filter_sublist) h

theorem nodupKeys_foldl_del (ids : List κ) (m : Map κ ν) (h : NodupKeys m) :
    NodupKeys (ids.foldl (fun m r => del m r) m) :=
  List.foldlRecOn ids _ h fun m hm r _ => nodupKeys_del m r hm

theorem nodupKeys_foldl_set {α : Type} (kf : α → κ) (vf : α → ν) (l : List α) (m : Map κ ν) (h : NodupKeys m) :
    NodupKeys (l.foldl (fun m a => set m (kf a) (vf a)) m) :=
  List.foldlRecOn l _ h fun m hm a _ => nodupKeys_set m (kf a) (vf a) hm

def total (f : ν → Nat) (m : Map κ ν) : Nat :=
  match m with
  | [] => 0
  | (_, v) :: t => f v + total f t

@[simp] theorem total_nil (f : ν → Nat) : total f ([] : Map κ ν) = 0 := rfl

def valAt (f : ν → Nat) (m : Map κ ν) (k : κ) : Nat :=
  match get m k with
  | some v => f v
  | none => 0

theorem valAt_eq_of_get (f : ν → Nat) (m : Map κ ν) (k : κ) (v : ν) (h : get m k = some v) : valAt f m k = f v := by
  simp [valAt, h]

theorem valAt_eq_zero (f : ν → Nat) (m : Map κ ν) (k : κ) (h : get m k = none) : valAt f m k = 0 := by
  simp [valAt, h]

theorem total_set (f : ν → Nat) (m : Map κ ν) (k : κ) (v : ν) :
    total f (set m k v) + valAt f m k = total f m + f v := by
  induction m with
  | nil => simp [set, total, valAt, get]
  | cons hd t ih =>
    obtain ⟨k', v'⟩ := hd
    by_cases hk : k' = k
    · subst hk; simp [set, total, valAt, get]; omega
    · simp only [valAt] at ih
      simp only [set, hk, if_false, total, valAt, get]
      omega

theorem valAt_le_total (f : ν → Nat) (m : Map κ ν) (k : κ) : valAt f m k ≤ total f m := by
  induction m with
  | nil => simp [valAt, get]
  | cons hd t ih =>
    obtain ⟨k', v'⟩ := hd
    by_cases hk : k' = k
    · subst hk; simp [total, valAt, get]
    · simp only [valAt] at ih
      simp only [total, valAt, get, hk, if_false]
      omega

theorem le_total_of_get (f : ν → Nat) {m : Map κ ν} {k : κ} {v : ν} (h : get m k = some v) : f v ≤ total f m :=
  valAt_eq_of_get f m k v h ▸ valAt_le_total f m k

theorem total_del_of_not_mem (f : ν → Nat) (m : Map κ ν) (k : κ) (h : k ∉ keys m) :
    total f (del m k) = total f m := by
  induction m with
  | nil => simp [del]
  | cons hd t ih =>
    obtain ⟨k', v'⟩ := hd
    have hk : k' ≠ k := by intro e; apply h; simp [keys, e]
    have : k ∉ keys t := by intro e; apply h; simp only [keys, List.map_cons, List.mem_cons]; right; exact e
    simp [del, hk, total, ih this]

theorem total_del (f : ν → Nat) (m : Map κ ν) (k : κ) (h : NodupKeys m) :
    total f (del m k) + valAt f m k = total f m := by
  induction m with
  | nil => simp [del, total, valAt, get]
  | cons hd t ih =>
    obtain ⟨k', v'⟩ := hd
    have hnd : NodupKeys t := by
      unfold NodupKeys keys at *; simp only [List.map_cons] at h; exact (List.nodup_cons.mp h).2
    by_cases hk : k' = k
    · subst hk
      have hnot : k' ∉ keys t := by
        unfold NodupKeys keys at h; simp only [List.map_cons] at h; exact (List.nodup_cons.mp h).1
      simp [del, total, valAt, get, total_del_of_not_mem f t k' hnot]; omega
    · have := ih hnd
      simp only [valAt] at this
      simp only [del, hk, if_false, total, valAt, get]
      omega

theorem total_eq_sum (f : ν → Nat) (m : Map κ ν) : total f m = (m.map fun e => f e.2).sum := by
  induction m with
  | nil => rfl
  | cons hd t ih => rw [List.map_cons, List.sum_cons, ← ih]; rfl

theorem total_filter_split (f : ν → Nat) (m : Map κ ν) (P : κ × ν → Bool) :
    total f (m.filter P) + total f (m.filter fun q => !P q) = total f m := by
  induction m with
  | nil => rfl
  | cons hd t ih =>
    obtain ⟨k, v⟩ := hd
    cases hp : P (k, v)
    · simp only [List.filter_cons, hp, Bool.false_eq_true, if_false, Bool.not_false, if_true, total]; omega
    · simp only [List.filter_cons, hp, if_true, Bool.not_true, Bool.false_eq_true, if_false, total]; omega

theorem del_eq_filter (m : Map κ ν) (k : κ) : del m k = m.filter fun q => q.1 ≠ k := by
  induction m with
  | nil => rfl
  | cons hd t ih =>
    obtain ⟨k', v'⟩ := hd
    by_cases hk : k' = k
    · subst hk; simp [del, ih]
    · simp [del, hk, ih]

theorem foldl_del_eq_filter (m : Map κ ν) (ks : List κ) :
    ks.foldl (fun m k => del m k) m = m.filter fun q => q.1 ∉ ks := by
  induction ks generalizing m with
  | nil => exact (List.filter_eq_self.mpr fun _ _ => by simp).symm
  | cons k t ih =>
    rw [List.foldl_cons, ih, del_eq_filter, List.filter_filter]
    exact List.filter_congr fun q _ => by simp only [List.mem_cons, not_or, Bool.decide_and, Bool.and_comm]

/-! ### a map restricted to the keys that satisfy `P` -/
section restrict
variable (P : κ → Prop) [DecidablePred P]

theorem get_filter_key (m : Map κ ν) (k : κ) :
    get (m.filter fun q => P q.1) k = if P k then get m k else none := by
  induction m with
  | nil => simp
  | cons hd t ih =>
    obtain ⟨k', v'⟩ := hd
    by_cases hk : k' = k
    · subst hk
      by_cases hP : P k' <;> simp [hP, get, ih]
    · by_cases hP : P k' <;> simp [hP, get, hk, ih]

theorem valAt_filter_key (f : ν → Nat) (m : Map κ ν) (k : κ) :
    valAt f (m.filter fun q => P q.1) k = if P k then valAt f m k else 0 := by
  unfold valAt
  rw [get_filter_key]
  by_cases hP : P k
  · rw [if_pos hP, if_pos hP]
  · rw [if_neg hP, if_neg hP]

theorem filter_set_key (m : Map κ ν) (k : κ) (v : ν) :
    (set m k v).filter (fun q => P q.1) =
      if P k then set (m.filter fun q => P q.1) k v else m.filter fun q => P q.1 := by
  induction m with
  | nil => by_cases hP : P k <;> simp [set, hP]
  | cons hd t ih =>
    obtain ⟨k', v'⟩ := hd
    by_cases hk : k' = k
    · subst hk
      by_cases hP : P k' <;> simp [set, hP]
    · by_cases hP : P k <;> by_cases hP' : P k' <;> simp [set, hk, hP, hP', ih]

theorem filter_del_key (m : Map κ ν) (k : κ) :
    (del m k).filter (fun q => P q.1) = del (m.filter fun q => P q.1) k := by
  rw [del_eq_filter, del_eq_filter, List.filter_filter, List.filter_filter]
  exact List.filter_congr fun q _ => Bool.and_comm _ _

theorem total_filter_set (f : ν → Nat) (m : Map κ ν) (k : κ) (v : ν) :
    total f ((set m k v).filter fun q => P q.1) + (if P k then valAt f m k else 0) =
      total f (m.filter fun q => P q.1) + (if P k then f v else 0) := by
  rw [filter_set_key]
  by_cases hP : P k
  · simp only [if_pos hP]
    have := total_set f (m.filter fun q => P q.1) k v
    rwa [valAt_filter_key, if_pos hP] at this
  · simp only [if_neg hP]

theorem total_filter_del (f : ν → Nat) (m : Map κ ν) (k : κ) (h : NodupKeys m) :
    total f ((del m k).filter fun q => P q.1) + (if P k then valAt f m k else 0) = total f (m.filter fun q => P q.1) := by
  rw [filter_del_key, ← valAt_filter_key]
  exact total_del f _ k (nodupKeys_filter m _ h)

end restrict

section rel
variable {E : ν → ν → Prop} {m m' : Map κ ν} {k : κ} {x y : ν}

theorem get_set_of_none {k2 : κ} {w : ν} (hk : get m k = none) (h : get m k2 = some w) :
    get (set m k y) k2 = some w := by
  rw [get_set_other _ _ _ _ fun e => by subst e; cases hk.symm.trans h]
  exact h

def From (E : ν → ν → Prop) (m m' : Map κ ν) : Prop := ∀ k y, get m' k = some y → ∃ x, get m k = some x ∧ E x y

def Into (E : ν → ν → Prop) (m m' : Map κ ν) : Prop := ∀ k x, get m k = some x → ∃ y, get m' k = some y ∧ E x y

theorem From.trans {a b c : Map κ ν} (h1 : From E a b) (h2 : From E b c) (trans : ∀ {x y z}, E x y → E y z → E x z) :
    From E a c := fun k z hz => by
  obtain ⟨y, hy, e2⟩ := h2 k z hz
  obtain ⟨x, hx, e1⟩ := h1 k y hy
  exact ⟨x, hx, trans e1 e2⟩

theorem Into.trans {a b c : Map κ ν} (h1 : Into E a b) (h2 : Into E b c) (trans : ∀ {x y z}, E x y → E y z → E x z) :
    Into E a c := fun k x hx => by
  obtain ⟨y, hy, e1⟩ := h1 k x hx
  obtain ⟨z, hz, e2⟩ := h2 k y hy
  exact ⟨z, hz, trans e1 e2⟩

section
variable (hE : ∀ x, E x x)
include hE

theorem From.refl (m : Map κ ν) : From E m m := fun _ y h => ⟨y, h, hE y⟩

theorem From.set (hx : get m k = some x) (he : E x y) : From E m (Map.set m k y) := fun k2 z hz => by
  rcases get_set_cases hz with ⟨rfl, rfl⟩ | hz
  · exact ⟨x, hx, he⟩
  · exact ⟨z, hz, hE z⟩

theorem From.del (m : Map κ ν) (k : κ) : From E m (Map.del m k) := fun _ z hz => ⟨z, (get_del_some hz).2, hE z⟩

theorem Into.refl (m : Map κ ν) : Into E m m := fun _ x h => ⟨x, h, hE x⟩

theorem Into.set (hx : get m k = some x) (he : E x y) : Into E m (Map.set m k y) := fun k2 z hz => by
  by_cases hk : k = k2
  · subst hk; cases hx.symm.trans hz
    exact ⟨y, get_set_same .., he⟩
  · exact ⟨z, (get_set_other _ _ _ _ hk).trans hz, hE z⟩

theorem Into.add (hk : get m k = none) : Into E m (Map.set m k y) := fun _ z hz => ⟨z, get_set_of_none hk hz, hE z⟩

end

theorem Into.toFrom (hk : keys m' = keys m) (h : Into E m m') : From E m m' := fun k y hy => by
  have hm : k ∈ keys m := hk ▸ (get_isSome_iff_mem_keys m' k).mp (by rw [hy]; rfl)
  obtain ⟨x, hx⟩ := Option.isSome_iff_exists.mp ((get_isSome_iff_mem_keys m k).mpr hm)
  obtain ⟨y', hy', he⟩ := h k x hx
  cases hy.symm.trans hy'
  exact ⟨x, hx, he⟩

end rel
end Map

abbrev FSet (α : Type) := List α

namespace FSet
variable {α : Type} [DecidableEq α]

def ins (s : FSet α) (a : α) : FSet α := if a ∈ s then s else s ++ [a]
def rem (s : FSet α) (a : α) : FSet α := s.filter (· ≠ a)

@[simp] theorem mem_ins (s : FSet α) (a b : α) : b ∈ ins s a ↔ b = a ∨ b ∈ s := by
  unfold ins; split
  · constructor
    · intro h; exact Or.inr h
    · rintro (h | h)
      · subst h; assumption
      · exact h
  · simp [or_comm]

theorem ins_of_mem {s : FSet α} {a : α} (h : a ∈ s) : ins s a = s := if_pos h

theorem ins_of_not_mem (s : FSet α) (a : α) (h : a ∉ s) : ins s a = s ++ [a] := if_neg h

@[simp] theorem mem_rem (s : FSet α) (a b : α) : b ∈ rem s a ↔ b ∈ s ∧ b ≠ a := by
  simp [rem]

theorem nodup_ins (s : FSet α) (a : α) (h : s.Nodup) : (ins s a).Nodup := by
  unfold ins; split
  · exact h
  · rename_i hna
    rw [List.nodup_append]
    refine ⟨h, by simp, ?_⟩
    intro x hx y hy; simp at hy; subst hy; intro e; subst e; exact hna hx

theorem nodup_rem (s : FSet α) (a : α) (h : s.Nodup) : (rem s a).Nodup := List.Nodup.sublist List.filter_sublist h

theorem rem_of_not_mem (l : FSet α) (a : α) (h : a ∉ l) : rem l a = l :=
  List.filter_eq_self.mpr fun _ hx => decide_eq_true fun e => h (e ▸ hx)

theorem rem_filter (l : FSet α) (a : α) (p : α → Bool) : (rem l a).filter p = rem (l.filter p) a := by
  unfold rem
  rw [List.filter_filter, List.filter_filter]
  exact congrArg (List.filter · l) (funext fun x => Bool.and_comm _ _)

theorem filter_rem_of_not (l : FSet α) {a : α} {p : α → Bool} (h : p a = false) : (rem l a).filter p = l.filter p := by
  rw [rem_filter, rem_of_not_mem]
  exact fun hm => Bool.false_ne_true (h.symm.trans (List.mem_filter.mp hm).2)

theorem sum_map_rem (f : α → Nat) (l : FSet α) (a : α) (hn : l.Nodup) (ha : a ∈ l) :
    ((rem l a).map f).sum + f a = (l.map f).sum := by
  induction l with
  | nil => cases ha
  | cons b t ih =>
    obtain ⟨hbt, hnt⟩ := List.nodup_cons.mp hn
    rw [List.map_cons, List.sum_cons]
    by_cases hab : b = a
    · subst hab
      rw [show rem (b :: t) b = rem t b by simp [rem], rem_of_not_mem t b hbt]
      omega
    · rw [show rem (b :: t) a = b :: rem t a by simp [rem, hab], List.map_cons, List.sum_cons,
        ← ih hnt ((List.mem_cons.mp ha).resolve_left (Ne.symm hab))]
      omega

theorem rem_length (l : FSet α) (a : α) (hn : l.Nodup) (ha : a ∈ l) : (rem l a).length + 1 = l.length := by
  have := sum_map_rem (fun _ => 1) l a hn ha
  rwa [List.map_const', List.map_const', List.sum_replicate_nat, List.sum_replicate_nat, Nat.mul_one, Nat.mul_one] at this

theorem length_filter_rem (l : FSet α) {a : α} {p : α → Bool} (hn : l.Nodup) (ha : a ∈ l) (hp : p a = true) :
    ((rem l a).filter p).length + 1 = (l.filter p).length := by
  rw [rem_filter]
  exact rem_length _ a (hn.sublist List.filter_sublist) (List.mem_filter.mpr ⟨ha, hp⟩)

theorem nodup_foldl_ins {β : Type} (f : β → α) (l : List β) (m : FSet α) (h : m.Nodup) :
    (l.foldl (fun m a => ins m (f a)) m).Nodup :=
  List.foldlRecOn l _ h fun m hm a _ => nodup_ins m (f a) hm

theorem mem_foldl_ins {β : Type} (f : β → α) (l : List β) (m : FSet α) (x : α) :
    x ∈ l.foldl (fun m a => ins m (f a)) m ↔ x ∈ m ∨ ∃ a ∈ l, x = f a := by
  induction l generalizing m with
  | nil => simp
  | cons a t ih =>
    rw [List.foldl_cons, ih, mem_ins]
    simp only [List.mem_cons, exists_eq_or_imp]
    constructor
    · rintro ((h | h) | h)
      · exact .inr (.inl h)
      · exact .inl h
      · exact .inr (.inr h)
    · rintro (h | h | h)
      · exact .inl (.inr h)
      · exact .inl (.inl h)
      · exact .inr h

/-! ### a set of pairs `(v, k)` that lists the records of a map `m`: `(v, k) ∈ q ↔ get m k = some v` -/
section mirror
variable {κ ν : Type} [DecidableEq κ] [DecidableEq ν] {q : FSet (ν × κ)} {m : Map κ ν} {k k2 : κ} {v0 : ν}

theorem mem_ins_other (hk : k2 ≠ k) (v : ν) : (v, k2) ∈ ins q (v0, k) ↔ (v, k2) ∈ q :=
  (mem_ins _ _ _).trans (or_iff_right fun e => hk (congrArg Prod.snd e))

theorem mem_rem_other (hk : k2 ≠ k) (v : ν) : (v, k2) ∈ rem q (v0, k) ↔ (v, k2) ∈ q :=
  (mem_rem _ _ _).trans (and_iff_left fun e => hk (congrArg Prod.snd e))

theorem mirror_ins (hm : ∀ v, (v, k) ∈ q ↔ Map.get m k = some v) (hk : Map.get m k = none) (v : ν) :
    (v, k) ∈ ins q (v0, k) ↔ Map.get (Map.set m k v0) k = some v := by
  rw [mem_ins, hm, hk, Map.get_set_same]
  exact ⟨fun e => e.elim (fun e => congrArg some (congrArg Prod.fst e).symm) nofun, fun e => .inl (Option.some.inj e ▸ rfl)⟩

theorem mirror_rem (hm : ∀ v, (v, k) ∈ q ↔ Map.get m k = some v) (hk : Map.get m k = some v0) (v : ν) :
    (v, k) ∈ rem q (v0, k) ↔ Map.get (Map.del m k) k = some v := by
  rw [mem_rem, hm, hk, Map.get_del_same]
  exact ⟨fun ⟨e, hne⟩ => absurd (Option.some.inj e ▸ rfl) hne, nofun⟩

end mirror

/-- `s` indexes the records of `m` by their field `f`; a write that keeps the field of the record at `k` keeps it so -/
theorem mirror_ins_set {κ ν : Type} [DecidableEq κ] {s : FSet (α × κ)} {m : Map κ ν} {f : ν → α} {k : κ} {v : ν}
    (hm : ∀ a k2, (a, k2) ∈ s ↔ ∃ w, Map.get m k2 = some w ∧ f w = a) (hk : ∀ w, Map.get m k = some w → f w = f v)
    (a : α) (k2 : κ) : (a, k2) ∈ ins s (f v, k) ↔ ∃ w, Map.get (Map.set m k v) k2 = some w ∧ f w = a := by
  rw [mem_ins, hm, Map.get_set]
  by_cases hkk : k = k2
  · subst hkk
    rw [if_pos rfl]
    constructor
    · rintro (e | ⟨w, hw, e⟩)
      · exact ⟨v, rfl, (congrArg Prod.fst e).symm⟩
      · exact ⟨v, rfl, (hk w hw).symm.trans e⟩
    · rintro ⟨w, hw, e⟩
      cases hw
      exact .inl (e ▸ rfl)
  · rw [if_neg hkk]
    exact or_iff_right fun e => hkk (congrArg Prod.snd e).symm

end FSet

theorem mem_filter_fst_map_snd {α β : Type} [DecidableEq α] (l : List (α × β)) (a : α) (b : β) :
    b ∈ (l.filter (fun p => p.1 = a)).map (·.2) ↔ (a, b) ∈ l := by
  simp only [List.mem_map, List.mem_filter, decide_eq_true_eq]
  constructor
  · rintro ⟨⟨a', b'⟩, ⟨hm, rfl⟩, rfl⟩
    exact hm
  · exact fun hm => ⟨(a, b), ⟨hm, rfl⟩, rfl⟩

end SM
