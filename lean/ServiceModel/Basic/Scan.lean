import ServiceModel.Basic.Map
/-!
# A store scan as the model sees it

The KV store holds one value per key; a prefix scan returns each matching key once. The
model's maps are association lists with first-match lookup, so a scan is the list of first
occurrences: `entries`. `(k, v) ∈ entries m ↔ get m k = some v` holds unconditionally, and
`entries m = m` when the keys are already duplicate-free. `FSet.elems` does the same for sets.
-/
namespace SM

namespace FSet
variable {α : Type} [DecidableEq α]

def elems : FSet α → List α
  | [] => []
  | a :: t => a :: (elems t).filter (· ≠ a)

@[simp] theorem mem_elems (s : FSet α) (a : α) : a ∈ elems s ↔ a ∈ s := by
  induction s with
  | nil => simp [elems]
  | cons b t ih =>
    simp only [elems, List.mem_cons, List.mem_filter, ih, ne_eq, decide_eq_true_eq]
    constructor
    · rintro (h | ⟨h, _⟩)
      · exact Or.inl h
      · exact Or.inr h
    · rintro (h | h)
      · exact Or.inl h
      · by_cases e : a = b
        · exact Or.inl e
        · exact Or.inr ⟨h, e⟩

theorem nodup_elems (s : FSet α) : (elems s).Nodup := by
  induction s with
  | nil => simp [elems]
  | cons b t ih =>
    simp only [elems, List.nodup_cons, List.mem_filter, ne_eq, not_true_eq_false, decide_false,
      Bool.false_eq_true, and_false, not_false_eq_true, true_and]
    exact List.Nodup.sublist List.filter_sublist ih

end FSet

namespace Map
variable {κ ν : Type} [DecidableEq κ]

def entries : Map κ ν → Map κ ν
  | [] => []
  | (k, v) :: t => (k, v) :: (entries t).filter (fun e => e.1 ≠ k)

theorem mem_entries (m : Map κ ν) (k : κ) (v : ν) : (k, v) ∈ entries m ↔ get m k = some v := by
  induction m with
  | nil => simp [entries, get]
  | cons hd t ih =>
    obtain ⟨k', v'⟩ := hd
    simp only [entries, List.mem_cons, List.mem_filter, ih, get, ne_eq, decide_eq_true_eq, Prod.mk.injEq]
    by_cases hk : k' = k
    · subst hk
      simp only [if_true, Option.some.injEq, not_true_eq_false, and_false, or_false, true_and]
      exact eq_comm
    · have hk' : ¬ k = k' := fun e => hk e.symm
      simp [hk, hk']

theorem nodupKeys_entries (m : Map κ ν) : NodupKeys (entries m) := by
  unfold NodupKeys keys
  induction m with
  | nil => simp [entries]
  | cons hd t ih =>
    obtain ⟨k', v'⟩ := hd
    simp only [entries, List.map_cons, List.nodup_cons, List.mem_map, List.mem_filter, ne_eq, decide_eq_true_eq]
    refine ⟨?_, ?_⟩
    · rintro ⟨e, ⟨_, hne⟩, he⟩
      exact hne he
    · exact List.Nodup.sublist (List.Sublist.map _ List.filter_sublist) ih

theorem entries_of_nodupKeys (m : Map κ ν) (h : NodupKeys m) : entries m = m := by
  unfold NodupKeys keys at h
  induction m with
  | nil => rfl
  | cons hd t ih =>
    obtain ⟨k', v'⟩ := hd
    simp only [List.map_cons, List.nodup_cons, List.mem_map] at h
    simp only [entries, ih h.2]
    congr 1
    apply List.filter_eq_self.mpr
    intro e he
    simp only [ne_eq, decide_eq_true_eq]
    intro e1
    exact h.1 ⟨e, he, e1⟩

theorem entries_idem (m : Map κ ν) : entries (entries m) = entries m :=
  entries_of_nodupKeys _ (nodupKeys_entries m)

theorem get_entries (m : Map κ ν) (k : κ) : get (entries m) k = get m k :=
  Option.ext fun v => by rw [← mem_entries (entries m), entries_idem, mem_entries]

theorem mem_iff_get {m : Map κ ν} (h : NodupKeys m) (k : κ) (v : ν) : (k, v) ∈ m ↔ get m k = some v := by
  rw [← mem_entries, entries_of_nodupKeys _ h]

theorem foldl_set_append : ∀ (l acc : Map κ ν), NodupKeys l → (∀ e ∈ l, e.1 ∉ keys acc) →
    l.foldl (fun m e => set m e.1 e.2) acc = acc ++ l := by
  intro l
  induction l with
  | nil => intro acc _ _; simp
  | cons e t ih =>
    intro acc hn hdis
    unfold NodupKeys keys at hn
    simp only [List.map_cons, List.nodup_cons, List.mem_map] at hn
    simp only [List.foldl_cons]
    rw [set_of_not_mem acc e.1 e.2 (hdis e (List.mem_cons_self ..))]
    rw [ih (acc ++ [(e.1, e.2)]) hn.2]
    · simp
    · intro e' he'
      simp only [keys, List.map_append, List.map_cons, List.map_nil, List.mem_append, List.mem_cons, List.not_mem_nil, or_false]
      rintro (h1 | h1)
      · exact hdis e' (List.mem_cons_of_mem _ he') h1
      · exact hn.1 ⟨e', he', h1⟩

theorem foldl_set_nil (l : Map κ ν) (h : NodupKeys l) : l.foldl (fun m e => set m e.1 e.2) [] = l := by
  have := foldl_set_append l [] h (by intro e _; simp [keys])
  simpa using this

theorem foldl_set_entries (m : Map κ ν) : (entries m).foldl (fun m e => set m e.1 e.2) [] = entries m :=
  foldl_set_nil _ (nodupKeys_entries m)

end Map
end SM
