import ServiceModel.Proofs.Refine
/-!
# `Msg` for the binding messages and `withdraw`; what `withdrawRecords` returns
-/
namespace SM
open Map

theorem define_msg {s : State} {n : SvcName} {a : Addr} (ok : Bool) {out : Out} (h : define s n a = out) :
    Handled s (.define n a ok) out := by
  unfold define at h
  split at h <;> subst h
  · exact .rej
  · exact .acc (.define ok ‹_›)

theorem bind_msg {s : State} {svc : SvcName} {p o : Addr} {dep : Option Nat} {t : PricingText} {qos : Nat} {out : Out}
    (h : bind s svc p o dep t qos = out) : Handled s (.bind svc p o dep (some t) qos) out := by
  unfold bind at h
  refine .guard h fun hms h => .guard h fun hdef h => .guard h fun hnew h => .guard h fun hown h => ?_
  cases dep with
  | none => subst h; exact .rej
  | some d =>
    refine .guard h fun hqos h => ?_
    generalize hpr : parsePricing t = pp at h
    cases pp with
    | bad => subst h; exact .rej
    | overflow => subst h; exact .panic (.bindParse hpr)
    | ok pr =>
      refine .guard h fun hvp h => ?_
      generalize hmd : minDeposit s.params pr = m at h
      cases m with
      | none => subst h; exact .panic (.bindMin hpr hmd)
      | some md =>
        refine .guard h fun hd h => ?_
        generalize hb : bankSend s.bank o s.cfg.deposit d = ob at h
        cases ob with
        | none => subst h; exact .rej
        | some bank' =>
          subst h
          have hown' : get s.owner p = none ∨ get s.owner p = some o := by
            cases hg : get s.owner p with
            | none => exact .inl rfl
            | some o' => exact .inr (Decidable.not_not.mp fun hne => hown ⟨by rw [hg]; rfl, hg ▸ hne⟩)
          have := Msg.bind hms (Option.isSome_iff_ne_none.mpr fun e => hdef (e ▸ rfl))
            (Option.not_isSome_iff_eq_none.mp hnew) hown' (Int.not_lt.mp hqos) hpr (by simpa using hvp) hmd
            (Nat.not_lt.mp hd) hb
          -- the model branches on the state, `Msg.bind` inside the fields `owner` and `ownerProv`
          by_cases hc : (get s.owner p).isNone = true
          · simp only [if_pos hc] at this ⊢; exact .acc this
          · simp only [if_neg hc] at this ⊢; exact .acc this

/-- the only panic of `newTerms`: the new price text denotes an amount beyond 255 bits -/
theorem newTerms_error {s : State} {svc : SvcName} {p : Addr} {text : Option PricingText} {r : Res}
    (h : newTerms s svc p text = .error r) :
    ((∃ e, r = .err e) ∨ ∃ m, r = .panic m) ∧ ∀ m, r = .panic m → ∃ t, text = some t ∧ parsePricing t = .overflow := by
  unfold newTerms at h
  split at h; · cases h
  split at h
  · cases h; exact ⟨.inl ⟨_, rfl⟩, nofun⟩
  · rename_i ht; cases h; exact ⟨.inr ⟨_, rfl⟩, fun _ _ => ⟨_, rfl, ht⟩⟩
  · split at h <;> cases h; exact ⟨.inl ⟨_, rfl⟩, nofun⟩

theorem newTerms_ok {s : State} {svc : SvcName} {p : Addr} {text : Option PricingText} {pr : Pricing}
    (h : newTerms s svc p text = .ok pr) (hp : (get s.pricing (svc, p)).isSome) :
    (text = none ∧ get s.pricing (svc, p) = some pr) ∨
    (∃ t, text = some t ∧ parsePricing t = .ok pr ∧ validPricing pr = true) := by
  unfold newTerms at h
  split at h
  · obtain ⟨p0, hp0⟩ := Option.isSome_iff_exists.mp hp
    rw [hp0] at h; cases h
    exact .inl ⟨rfl, hp0⟩
  split at h
  · cases h
  · cases h
  · split at h <;> cases h
    rename_i hv
    exact .inr ⟨_, rfl, ‹_›, by simpa using hv⟩

/-- the only panic of `minCheck`: the minimum deposit for the price overflows -/
theorem minCheck_some {params : Params} {b : Binding} {u : Bool} {p : Pricing} {r : Res}
    (h : minCheck params b u p = some r) :
    ((∃ e, r = .err e) ∨ ∃ m, r = .panic m) ∧ ∀ m, r = .panic m → minDeposit params p = none := by
  unfold minCheck at h
  split at h
  · split at h
    · cases h; exact ⟨.inr ⟨_, rfl⟩, fun _ _ => ‹_›⟩
    · split at h <;> cases h; exact ⟨.inl ⟨_, rfl⟩, nofun⟩
  · cases h

theorem minCheck_none {params : Params} {b : Binding} {upd : Bool} {p : Pricing}
    (h : minCheck params b upd p = none) (hav : b.avail = true) (hu : upd = true) :
    ∃ md, minDeposit params p = some md ∧ md ≤ b.deposit := by
  unfold minCheck at h
  simp only [hav, hu, and_self, if_true] at h
  cases hm : minDeposit params p with
  | none => rw [hm] at h; simp at h
  | some md =>
    rw [hm] at h; simp only at h
    split at h
    · simp at h
    · exact ⟨md, rfl, by omega⟩

theorem disable_msg {s : State} {svc : SvcName} {p o : Addr} {out : Out} (h : disable s svc p o = out) :
    Handled s (.disable svc p o) out := by
  unfold disable at h
  generalize hb : get s.bindings (svc, p) = ob at h
  cases ob with
  | none => subst h; exact .rej
  | some b =>
    refine .guard h fun ho h => .guard h fun hav h => ?_
    subst h
    exact .acc (.disable hb (Decidable.not_not.mp ho) (by simpa using hav))

theorem enable_msg {s : State} {svc : SvcName} {p o : Addr} {dep : Option Nat} {out : Out}
    (h : enable s svc p o dep = out) : Handled s (.enable svc p o dep) out := by
  unfold enable at h
  generalize hb : get s.bindings (svc, p) = ob at h
  cases ob with
  | none => subst h; exact .rej
  | some b =>
    refine .guard h fun ho h => .guard h fun hav h => ?_
    dsimp only at h
    split at h; · subst h; exact .panic (.enableSum hb ‹_›)
    split at h; · subst h; exact .panic (.enableMin hb ‹_›)
    rename_i hov _ md hmd
    refine .guard h fun hd h => ?_
    generalize hbank : (if dep.isSome then bankSend s.bank o s.cfg.deposit (dep.getD 0) else some s.bank) = ob at h
    cases ob with
    | none => subst h; exact .rej
    | some bank' =>
      subst h
      exact .acc (.enable hb (Decidable.not_not.mp ho) (by simpa using hav) hov hmd (Nat.not_lt.mp hd) hbank)

theorem refund_msg {s : State} {svc : SvcName} {p o : Addr} {out : Out} (h : refund s svc p o = out) :
    Handled s (.refund svc p o) out := by
  unfold refund at h
  generalize hb : get s.bindings (svc, p) = ob at h
  cases ob with
  | none => subst h; exact .rej
  | some b =>
    refine .guard h fun ho h => .guard h fun hav h => .guard h fun hpos h => .guard h fun htime h => ?_
    generalize hbank : bankSend s.bank s.cfg.deposit b.owner b.deposit = ob at h
    cases ob with
    | none => subst h; exact .rej
    | some bank' =>
      subst h
      exact .acc (.refund hb (Decidable.not_not.mp ho) (by simpa using hav) hpos htime hbank)

theorem update_msg {s : State} {svc : SvcName} {p o : Addr} {dep : Option Nat} {text : Option PricingText} {qos : Nat}
    {out : Out} (h : update s svc p o dep text qos = out) : Handled s (.update svc p o dep text qos) out := by
  unfold update at h
  generalize hb : get s.bindings (svc, p) = ob at h
  cases ob with
  | none => subst h; exact .rej
  | some b =>
    refine .guard h fun ho h => .guard h fun hqos h => ?_
    split at h; · subst h; exact .panic (.updateSum hb ‹_›)
    rename_i hov
    dsimp only at h
    split at h
    · subst h
      refine .refused (newTerms_error ‹_›).1 fun m e => ?_
      obtain ⟨t, rfl, ht⟩ := (newTerms_error ‹_›).2 m e
      exact .updateTerms hb ht
    split at h
    · subst h
      exact .refused (minCheck_some ‹_›).1 fun m e => .updateMin hb ‹_› ((minCheck_some ‹_›).2 m e)
    split at h; · subst h; exact .rej
    rename_i _ pr hpr _ hmin _ bank' hbank
    have := Msg.update hb (Decidable.not_not.mp ho) hqos hov hpr hmin hbank
    split at h <;> subst h
    · exact .acc this
    · -- nothing was given to update: the model returns the state as it is; the binding written is the stored one
      rename_i hu _
      obtain ⟨⟨rfl, rfl⟩, rfl⟩ : (qos = 0 ∧ dep = none) ∧ text = none := by simpa using hu
      have this : Msg s (.update svc p o none none 0) []
          { s with bank := bank', bindings := set s.bindings (svc, p) b } := this
      rw [Map.set_get_same _ _ _ hb] at this
      exact .acc this

/-- the only refusal of `withdrawRecords` is a panic: the owner's record is below the provider's -/
theorem withdrawRecords_error {s : State} {o p : Addr} {r : Res} (h : withdrawRecords s o p = .error r) :
    (∃ m, r = .panic m) ∧ p ≠ "" ∧ balOf s.ownerEarned o < balOf s.earned p := by
  unfold withdrawRecords at h
  split at h
  · split at h; · cases h
    split at h <;> cases h
    exact ⟨⟨_, rfl⟩, ‹_›, ‹_›⟩
  · cases h

theorem withdrawRecords_ok {s s1 : State} {o p : Addr} {amt : Nat} (h : withdrawRecords s o p = .ok (s1, amt)) :
    s1 = { s with earned := s1.earned, ownerEarned := s1.ownerEarned } ∧
    (p ≠ "" → amt = balOf s.earned p ∧ s1.earned = Map.del s.earned p ∧
      (s1.ownerEarned = Map.del s.ownerEarned o ∧ balOf s.earned p = balOf s.ownerEarned o ∨
       s1.ownerEarned = Map.set s.ownerEarned o (balOf s.ownerEarned o - balOf s.earned p) ∧
         balOf s.earned p < balOf s.ownerEarned o)) ∧
    (p = "" → amt = balOf s.ownerEarned o ∧
      s1.earned = (providersOf s o).foldl (fun m p => Map.del m p) s.earned ∧
      s1.ownerEarned = Map.del s.ownerEarned o) := by
  unfold withdrawRecords at h
  split at h
  · rename_i hp
    split at h
    · cases h; exact ⟨rfl, fun _ => ⟨rfl, rfl, .inl ⟨rfl, ‹_›⟩⟩, fun e => absurd e hp⟩
    split at h; · cases h
    cases h
    exact ⟨rfl, fun _ => ⟨rfl, rfl, .inr ⟨rfl, by omega⟩⟩, fun e => absurd e hp⟩
  · rename_i hp
    cases h; exact ⟨rfl, fun e => absurd e hp, fun _ => ⟨rfl, rfl, rfl⟩⟩

theorem withdraw_msg {s : State} {o p : Addr} {out : Out} (h : withdraw s o p = out) : Handled s (.withdraw o p) out := by
  unfold withdraw at h
  refine .guard h fun hown h => ?_
  generalize hrec : withdrawRecords s o p = wr at h
  cases wr with
  | error r =>
    subst h
    refine .refused (.inr (withdrawRecords_error hrec).1) fun _ e => ?_
    subst e; exact .withdraw (fun hp => Decidable.not_not.mp fun hne => hown ⟨hp, hne⟩) hrec
  | ok res =>
    obtain ⟨s1, amt⟩ := res
    refine .guard h fun hdst h => ?_
    have hf := (withdrawRecords_ok hrec).1
    generalize s1.earned = ea, s1.ownerEarned = oe at hf
    subst hf
    generalize hb : bankSend s.bank s.cfg.escrow ((get s.withdraw o).getD o) amt = ob at h
    cases ob with
    | none => subst h; exact .rej
    | some bank' =>
      subst h
      exact .acc (.withdraw (fun hp => Decidable.not_not.mp fun hne => hown ⟨hp, hne⟩) hrec hdst hb)

end SM
