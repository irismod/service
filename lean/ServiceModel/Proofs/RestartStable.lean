import ServiceModel.Proofs.Restart
import ServiceModel.Proofs.Frames
/-!
# What a zero-height restart keeps — and the stability families over chains with any number of restarts

The stability theorems of C15 / C13 (`Proofs/Frames.lean`) quantify over operation lists from an arbitrary state; a
restart is not an operation. Here: a restart gives back **the same** definitions, bindings (the whole record: deposit,
price text, availability, disabling time, owner) and withdrawal addresses, as point lookups, from any state, and the same
provider → owner map from a state in which that map was consistent with the bindings (`restart_records`); and
`ContinuesR`, the continuation of a chain by well-formed operations and restarts, keeps `Stable` and — unless the
owner's own message intervenes — the withdrawal address.
-/
namespace SM
open Map

/-- the records a restart gives back, as point lookups -/
structure SameRecords (s s' : State) : Prop where
  defs : ∀ n, get s'.defs n = get s.defs n
  bindings : ∀ k, get s'.bindings k = get s.bindings k
  withdraw : ∀ o, get s'.withdraw o = get s.withdraw o
  owner : ∀ pv, get s'.owner pv = get s.owner pv
  params : s'.params = s.params
  cfg : s'.cfg = s.cfg

theorem restart_records {s s' : State} (hb : InvB s) {height time : Int} (hre : restart s height time = some s') :
    SameRecords s s' := by
  obtain ⟨-, -, -, rfl⟩ := restart_eq.mp hre
  exact ⟨get_entries _, get_entries _, get_entries _, hb.owner_rebuilt, rfl, rfl⟩

theorem restart_sameRecords {s s' : State} (hall : InvAll s) {height time : Int}
    (hre : restart s height time = some s') : SameRecords s s' ∧ InvAll s' :=
  ⟨restart_records hall.inv.b hre, hall.restart hre⟩

theorem SameRecords.stable {s s' : State} (h : SameRecords s s') : Stable s s' :=
  ⟨fun n d hd => by rw [h.defs]; exact hd,
   fun k b hb => ⟨b, by rw [h.bindings]; exact hb, rfl⟩,
   fun pv o ho => by rw [h.owner]; exact ho⟩

/-- continuation of a chain by well-formed operations that satisfy `P`, and zero-height restarts -/
inductive ContinuesR (P : Op → Prop) (s : State) : State → Prop
  | refl : ContinuesR P s s
  | step {s1 : State} (op : Op) : ContinuesR P s s1 → WF s1 op → P op → ContinuesR P s (step s1 op).1
  | restart {s1 s2 : State} (height time : Int) : ContinuesR P s s1 → SM.restart s1 height time = some s2 →
      ContinuesR P s s2

theorem ContinuesR.reachableR {cfg : Config} {p : Params} {h0 t0 : Int} {P : Op → Prop} {s s' : State}
    (hr : ReachableR cfg p h0 t0 s) (hc : ContinuesR P s s') : ReachableR cfg p h0 t0 s' := by
  induction hc with
  | refl => exact hr
  | step op _ hw _ ih => exact ReachableR.step op ih hw
  | restart height time _ hre ih => exact ReachableR.restart height time ih hre

theorem continuesR_stable {cfg : Config} {p : Params} {h0 t0 : Int} (hcfg : CfgOK cfg p) {P : Op → Prop} {s s' : State}
    (hr : ReachableR cfg p h0 t0 s) (hc : ContinuesR P s s') : Stable s s' := by
  induction hc with
  | refl => exact Stable.refl s
  | step op _ _ _ ih => exact ih.trans (step_stable _ op)
  | restart height time hc1 hre ih =>
    exact ih.trans (restart_records (reachableR_invAll hcfg (hc1.reachableR hr)).inv.b hre).stable

/-- the withdrawal addresses are exported and imported as they are, whatever the state: this needs no invariant -/
theorem continuesR_withdraw (o : Addr) {s s' : State} (hc : ContinuesR (fun op => op.setsWithdrawOf o = false) s s') :
    get s'.withdraw o = get s.withdraw o := by
  induction hc with
  | refl => rfl
  | step op _ _ hp ih => rw [step_withdraw_addr _ op o hp]; exact ih
  | restart height time _ hre ih =>
    obtain ⟨-, -, -, rfl⟩ := restart_eq.mp hre
    exact (get_entries _ o).trans ih

theorem continuesR_withdraw_addr {cfg : Config} {p : Params} {h0 t0 : Int} (hcfg : CfgOK cfg p) (o : Addr) {s s' : State}
    (hr : ReachableR cfg p h0 t0 s) (hc : ContinuesR (fun op => op.setsWithdrawOf o = false) s s') :
    get s'.withdraw o = get s.withdraw o := continuesR_withdraw o hc

end SM
