import ServiceModel.Model.EndBlock
import ServiceModel.Basic.Scan
/-!
# Which providers `eligible` keeps, and what `issueReqs` does, as equations on the components it changes
-/
namespace SM
open Map

theorem mem_eligible (s : State) (x : Ctx) (pv : Addr) (price : Nat) :
    (pv, price) ∈ eligible s x ↔
      pv ∈ x.provs ∧ ∃ b, get s.bindings (x.svc, pv) = some b ∧ b.avail = true ∧ (b.qos : Int) ≤ x.timeout ∧
        price = priceOf (storedPricing s x.svc pv) s.time ((get s.volume (x.cons, x.svc, pv)).getD 0) ∧ price ≤ x.cap := by
  unfold eligible
  rw [List.mem_filterMap]
  constructor
  · rintro ⟨a, ha, h⟩
    split at h; · cases h
    rename_i b hb
    split at h
    · dsimp only at h
      split at h
      · cases h; exact ⟨ha, b, hb, ‹_ ∧ _›.1, ‹_ ∧ _›.2, rfl, ‹_›⟩
      · cases h
    · cases h
  · rintro ⟨hp, b, hb, h1, h2, h3, h4⟩
    refine ⟨pv, hp, ?_⟩
    rw [hb]; dsimp only
    rw [if_pos ⟨h1, h2⟩, ← h3, if_pos h4]

theorem eligible_bound (s : State) (x : Ctx) (p : Addr) (price : Nat) (h : (p, price) ∈ eligible s x) :
    (Map.get s.bindings (x.svc, p)).isSome := by
  obtain ⟨-, b, hb, -⟩ := (mem_eligible s x p price).mp h
  rw [hb]; rfl

/-- the request records `issueReqs` writes, in order -/
def issuedPairs (c : CtxId) (x : Ctx) (height : Int) : List (Addr × Nat) → Nat → List (ReqId × Req)
  | [], _ => []
  | (p, price) :: rest, i =>
    ({ ctx := c, batch := x.batch + 1, height := height.toNat, index := i },
     { prov := p, fee := if x.super then 0 else price, reqH := height, expH := height + x.timeout })
      :: issuedPairs c x height rest (i + 1)

theorem issuedPairs_getElem? (c : CtxId) (x : Ctx) (height : Int) (el : List (Addr × Nat)) (i k : Nat) :
    (issuedPairs c x height el i)[k]? =
      el[k]?.map fun pp => ({ ctx := c, batch := x.batch + 1, height := height.toNat, index := i + k },
        { prov := pp.1, fee := if x.super then 0 else pp.2, reqH := height, expH := height + x.timeout }) := by
  induction el generalizing i k with
  | nil => rfl
  | cons hd t ih =>
    cases k with
    | zero => rfl
    | succ k =>
      simp only [issuedPairs, List.getElem?_cons_succ, ih (i + 1) k, Nat.add_right_comm i 1 k, Nat.add_assoc]

theorem mem_issuedPairs {c : CtxId} {x : Ctx} {height : Int} {el : List (Addr × Nat)} {i : Nat} {r : ReqId} {q : Req}
    (h : (r, q) ∈ issuedPairs c x height el i) :
    ∃ k p price, el[k]? = some (p, price) ∧
      r = { ctx := c, batch := x.batch + 1, height := height.toNat, index := i + k } ∧
      q = { prov := p, fee := if x.super then 0 else price, reqH := height, expH := height + x.timeout } := by
  obtain ⟨k, hk⟩ := List.mem_iff_getElem?.mp h
  rw [issuedPairs_getElem?] at hk
  obtain ⟨⟨p, price⟩, hpp, he⟩ := Option.map_eq_some_iff.mp hk
  cases he
  exact ⟨k, p, price, hpp, rfl, rfl⟩

theorem issuedPairs_ctx {c : CtxId} {x : Ctx} {height : Int} {el : List (Addr × Nat)} {i : Nat} {r : ReqId}
    (h : r ∈ Map.keys (issuedPairs c x height el i)) : r.ctx = c := by
  obtain ⟨⟨_, q⟩, hm, rfl⟩ := List.mem_map.mp h
  obtain ⟨_, _, _, -, rfl, -⟩ := mem_issuedPairs hm
  rfl

theorem issuedPairs_get_none {c : CtxId} {x : Ctx} {height : Int} {el : List (Addr × Nat)} {i : Nat} {r : ReqId}
    (h : r.index < i) : get (issuedPairs c x height el i) r = none := by
  refine (get_none_iff _ _).mpr fun hm => ?_
  obtain ⟨⟨r2, q⟩, hmem, rfl⟩ := List.mem_map.mp hm
  obtain ⟨k, _, _, -, rfl, -⟩ := mem_issuedPairs hmem
  exact Nat.not_lt.mpr (Nat.le_add_right i k) h

theorem issuedPairs_nodup (c : CtxId) (x : Ctx) (height : Int) (el : List (Addr × Nat)) (i : Nat) :
    (Map.keys (issuedPairs c x height el i)).Nodup := by
  induction el generalizing i with
  | nil => exact List.nodup_nil
  | cons hd t ih =>
    exact List.nodup_cons.mpr ⟨(get_none_iff _ _).mp (issuedPairs_get_none (Nat.lt_succ_self i)), ih (i + 1)⟩

theorem issuedPairs_length (c : CtxId) (x : Ctx) (height : Int) (el : List (Addr × Nat)) (i : Nat) :
    (issuedPairs c x height el i).length = el.length := by
  induction el generalizing i with
  | nil => rfl
  | cons hd t ih => exact congrArg (· + 1) (ih (i + 1))

theorem mem_pairs_get {c : CtxId} {x : Ctx} {height : Int} {el : List (Addr × Nat)} {i : Nat} {r : ReqId} {q : Req}
    (h : (r, q) ∈ issuedPairs c x height el i) : get (issuedPairs c x height el i) r = some q :=
  (mem_iff_get (issuedPairs_nodup c x height el i) r q).mp h

theorem issuedPairs_fees (c : CtxId) (x : Ctx) (height : Int) (el : List (Addr × Nat)) (i : Nat) :
    ((issuedPairs c x height el i).map (fun pq => pq.2.fee)).sum = if x.super then 0 else sumPrices el := by
  induction el generalizing i with
  | nil => simp [issuedPairs, sumPrices]
  | cons hd t ih =>
    simp only [issuedPairs, List.map_cons, List.sum_cons, ih (i + 1)]
    by_cases hs : x.super <;> simp [hs, sumPrices]

theorem issueReqs_reqs (s : State) (c : CtxId) (x : Ctx) (el : List (Addr × Nat)) (i : Nat) (r : ReqId) :
    Map.get (issueReqs s c x el i).reqs r =
      match Map.get (issuedPairs c x s.height el i) r with
      | some q => some q
      | none => Map.get s.reqs r := by
  induction el generalizing s i with
  | nil => simp [issueReqs, issuedPairs]
  | cons hd t ih =>
    simp only [issueReqs, issuedPairs]
    rw [ih]
    simp only [addActive, Map.get]
    by_cases hr : ({ ctx := c, batch := x.batch + 1, height := s.height.toNat, index := i } : ReqId) = r
    · subst hr
      rw [issuedPairs_get_none (by simp)]
      simp
    · simp only [hr, if_false]
      rw [Map.get_set_other _ _ _ _ hr]

theorem issueReqs_activeI (s : State) (c : CtxId) (x : Ctx) (el : List (Addr × Nat)) (i : Nat)
    (hfresh : ∀ r, r ∈ s.activeI → ¬ (r.ctx = c ∧ r.batch = x.batch + 1 ∧ r.height = s.height.toNat ∧ i ≤ r.index)) :
    (issueReqs s c x el i).activeI = s.activeI ++ Map.keys (issuedPairs c x s.height el i) := by
  induction el generalizing s i with
  | nil => simp [issueReqs, issuedPairs, Map.keys]
  | cons hd t ih =>
    have hins := FSet.ins_of_not_mem s.activeI { ctx := c, batch := x.batch + 1, height := s.height.toNat, index := i }
      fun hm => hfresh _ hm ⟨rfl, rfl, rfl, Nat.le_refl _⟩
    simp only [issueReqs, issuedPairs, Map.keys, List.map_cons]
    rw [ih]
    · simp only [addActive, hins, Map.keys, List.append_assoc, List.singleton_append]
    · intro r hr ⟨h1, h2, h3, h4⟩
      simp only [addActive, hins, List.mem_append, List.mem_singleton] at hr
      rcases hr with hr | rfl
      · exact hfresh r hr ⟨h1, h2, h3, by omega⟩
      · exact Nat.not_succ_le_self i h4

theorem issueReqs_activeB (s : State) (c : CtxId) (x : Ctx) (el : List (Addr × Nat)) (i : Nat)
    (t : SvcName × Addr × Int × ReqId) :
    t ∈ (issueReqs s c x el i).activeB ↔
      t ∈ s.activeB ∨ t ∈ (issuedPairs c x s.height el i).map (fun pq => (x.svc, pq.2.prov, pq.2.expH, pq.1)) := by
  induction el generalizing s i with
  | nil => simp [issueReqs, issuedPairs]
  | cons hd rest ih =>
    simp only [issueReqs, issuedPairs, List.map_cons, List.mem_cons]
    rw [ih]
    show t ∈ FSet.ins s.activeB _ ∨ _ ↔ _
    rw [FSet.mem_ins, or_assoc, or_left_comm]
    exact Iff.rfl

end SM
