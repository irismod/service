import ServiceModel.Inv.Defs
/-!
`MInv` (escrow backing, double bookkeeping of earnings) under the primitive changes.
`ownedSum owner earned o` sums the earnings map restricted to the providers of `o`, so what a write or a deletion at
one provider does to it is what `Map.total_filter_set` / `Map.total_filter_del` say of any map restricted by a test on
its keys.
-/
namespace SM
open Map

def feeAt (reqs : Map ReqId Req) (r : ReqId) : Nat :=
  match Map.get reqs r with
  | some q => q.fee
  | none => 0

theorem feeAt_of_get {reqs : Map ReqId Req} {r : ReqId} {q : Req} (h : Map.get reqs r = some q) : feeAt reqs r = q.fee := by
  unfold feeAt; rw [h]

theorem feeSum_eq (reqs : Map ReqId Req) (l : List ReqId) : feeSum reqs l = (l.map (feeAt reqs)).sum := rfl

theorem feeSum_cons (reqs : Map ReqId Req) (a : ReqId) (l : List ReqId) :
    feeSum reqs (a :: l) = feeAt reqs a + feeSum reqs l := rfl

theorem feeSum_append (reqs : Map ReqId Req) (l1 l2 : List ReqId) :
    feeSum reqs (l1 ++ l2) = feeSum reqs l1 + feeSum reqs l2 := by
  rw [feeSum_eq, List.map_append, List.sum_append]; rfl

theorem feeSum_congr (reqs reqs' : Map ReqId Req) (l : List ReqId)
    (h : ∀ r, r ∈ l → Map.get reqs' r = Map.get reqs r) : feeSum reqs' l = feeSum reqs l :=
  congrArg List.sum (List.map_congr_left fun r hr => by rw [h r hr])

theorem feeAt_le_feeSum (reqs : Map ReqId Req) (l : List ReqId) (r : ReqId) (h : r ∈ l) :
    feeAt reqs r ≤ feeSum reqs l := by
  induction l with
  | nil => cases h
  | cons a t ih =>
    rw [feeSum_cons]
    rcases List.mem_cons.mp h with rfl | h
    · exact Nat.le_add_right _ _
    · exact Nat.le_trans (ih h) (Nat.le_add_left _ _)

theorem feeSum_keys (reqs : Map ReqId Req) (pairs : List (ReqId × Req))
    (h : ∀ r q, (r, q) ∈ pairs → get reqs r = some q) :
    feeSum reqs (keys pairs) = (pairs.map (fun pq => pq.2.fee)).sum := by
  induction pairs with
  | nil => rfl
  | cons pq t ih =>
    rw [keys, List.map_cons, feeSum_cons, feeAt_of_get (h pq.1 pq.2 List.mem_cons_self), List.map_cons, List.sum_cons]
    exact congrArg _ (ih fun r q hm => h r q (List.mem_cons_of_mem _ hm))

theorem ownedSum_addTo (owner : Map Addr Addr) (earned : Map Addr Nat) (p o : Addr) (e : Nat) :
    ownedSum owner (addTo earned p e) o = ownedSum owner earned o + if Map.get owner p = some o then e else 0 := by
  unfold addTo
  split
  · subst e; simp
  · have := total_filter_set (fun a => Map.get owner a = some o) (fun n : Nat => n) earned p (balOf earned p + e)
    rw [← balOf_eq_valAt] at this
    unfold ownedSum
    by_cases ho : Map.get owner p = some o
    · simp only [if_pos ho] at this ⊢; omega
    · simp only [if_neg ho] at this ⊢; omega

theorem ownedSum_del (owner : Map Addr Addr) (earned : Map Addr Nat) (p o2 : Addr) (hn : Map.NodupKeys earned) :
    ownedSum owner (Map.del earned p) o2 + (if Map.get owner p = some o2 then balOf earned p else 0) =
      ownedSum owner earned o2 := by
  rw [balOf_eq_valAt]
  exact total_filter_del (fun a => Map.get owner a = some o2) _ earned p hn

theorem ownedSum_setOwner (owner : Map Addr Addr) {earned : Map Addr Nat} {p : Addr} (o o2 : Addr)
    (hp : Map.get earned p = none) : ownedSum (Map.set owner p o) earned o2 = ownedSum owner earned o2 := by
  unfold ownedSum
  refine congrArg _ (List.filter_congr fun q hq => ?_)
  have hne : p ≠ q.1 := fun e => (Map.get_none_iff earned p).mp hp (e ▸ List.mem_map_of_mem hq)
  rw [Map.get_set_other _ _ _ _ hne]

theorem ownedSum_filter_others (owner : Map Addr Addr) (earned : Map Addr Nat) (o o2 : Addr) :
    ownedSum owner (earned.filter fun q => ¬ Map.get owner q.1 = some o) o2 =
      if o = o2 then 0 else ownedSum owner earned o2 := by
  unfold ownedSum
  rw [List.filter_filter]
  split
  · subst o2
    rw [List.filter_eq_nil_iff.mpr fun q _ => by simp]; rfl
  · rename_i hne
    refine congrArg _ (List.filter_congr fun q _ => ?_)
    by_cases hq : Map.get owner q.1 = some o2
    · have : ¬ o2 = o := fun e => hne e.symm
      simp [hq, this]
    · simp [hq]

variable {escBal : Nat} {reqs : Map ReqId Req} {activeI : FSet ReqId}
  {earned ownerEarned : Map Addr Nat} {owner : Map Addr Addr}

/-- a bank move that leaves the escrow balance as it was -/
theorem MInv.sameBal (h : MInv escBal reqs activeI earned ownerEarned owner) {escBal' : Nat} (hb : escBal' = escBal) :
    MInv escBal' reqs activeI earned ownerEarned owner := by subst hb; exact h

theorem MInv.fee_le (h : MInv escBal reqs activeI earned ownerEarned owner) {r : ReqId} (hr : r ∈ activeI) :
    feeAt reqs r ≤ escBal := by
  have := feeAt_le_feeSum reqs activeI r hr
  have := h.escrow
  omega

theorem MInv.reqsIrrelevant (h : MInv escBal reqs activeI earned ownerEarned owner) {reqs' : Map ReqId Req}
    (hr : ∀ r, r ∈ activeI → Map.get reqs' r = Map.get reqs r) :
    MInv escBal reqs' activeI earned ownerEarned owner := by
  refine { h with escrow := ?_ }
  rw [feeSum_congr reqs reqs' activeI hr]; exact h.escrow

/-- a pending request is settled by returning its fee (malformed output, or expiry) -/
theorem MInv.refundReq (h : MInv escBal reqs activeI earned ownerEarned owner) {r : ReqId} {escBal' : Nat}
    (hn : activeI.Nodup) (hr : r ∈ activeI) (hb : escBal' + feeAt reqs r = escBal) :
    MInv escBal' reqs (FSet.rem activeI r) earned ownerEarned owner := by
  refine { h with escrow := ?_ }
  have : feeSum reqs (FSet.rem activeI r) + feeAt reqs r = feeSum reqs activeI := FSet.sum_map_rem _ _ r hn hr
  have := h.escrow
  omega

theorem MInv.credit (h : MInv escBal reqs activeI earned ownerEarned owner) {p o : Addr} (e : Nat)
    (ho : Map.get owner p = some o) :
    MInv (escBal + e) reqs activeI (addTo earned p e) (addTo ownerEarned o e) owner where
  escrow := by rw [total_addTo, h.escrow, Nat.add_assoc]
  earnedK := nodupKeys_addTo _ _ _ h.earnedK
  ownerEarnedK := nodupKeys_addTo _ _ _ h.ownerEarnedK
  ownerSum := fun o2 => by
    rw [balOf_addTo, ownedSum_addTo, ho, h.ownerSum o2]
    simp only [Option.some.injEq]
  earnedOwned := fun p2 hp2 => by
    rcases isSome_addTo hp2 with rfl | hp2
    · rw [ho]; rfl
    · exact h.earnedOwned p2 hp2

/-- a pending request is settled by an accepted response: tax out of escrow, the rest to the earnings of the
    provider and of its owner -/
theorem MInv.earn (h : MInv escBal reqs activeI earned ownerEarned owner) {r : ReqId} {p : Addr}
    {escBal' tax e : Nat}
    (hn : activeI.Nodup) (hr : r ∈ activeI) (hfee : feeAt reqs r = tax + e) (hb : escBal' + tax = escBal)
    (ho : (Map.get owner p).isSome) :
    MInv escBal' reqs (FSet.rem activeI r) (addTo earned p e) (addTo ownerEarned ((Map.get owner p).getD "") e) owner := by
  obtain ⟨o, ho⟩ := Option.isSome_iff_exists.mp ho
  rw [ho]
  -- `e` is entered as earned, then the whole fee leaves the pending ones: `escBal' + (tax + e) = escBal + e`
  exact (h.credit e ho).refundReq hn hr (by omega)

/-- a batch is issued: new pending requests, the consumer's payment enters escrow -/
theorem MInv.issue (h : MInv escBal reqs activeI earned ownerEarned owner)
    {reqs' : Map ReqId Req} {activeI' : FSet ReqId} {escBal' : Nat} (newIds : List ReqId)
    (hAI : activeI' = activeI ++ newIds)
    (hold : ∀ r, r ∈ activeI → Map.get reqs' r = Map.get reqs r)
    (hb : escBal' = escBal + feeSum reqs' newIds) :
    MInv escBal' reqs' activeI' earned ownerEarned owner := by
  refine { h with escrow := ?_ }
  rw [hAI, feeSum_append, feeSum_congr reqs reqs' activeI hold, hb]
  have := h.escrow
  omega

/-- a provider without an owner gets one (its first binding): it has no earnings yet -/
theorem MInv.addOwner (h : MInv escBal reqs activeI earned ownerEarned owner) {p o : Addr} :
    MInv escBal reqs activeI earned ownerEarned (if (Map.get owner p).isNone then Map.set owner p o else owner) := by
  split
  case isFalse => exact h
  rename_i hnone
  have hp : Map.get earned p = none := Option.not_isSome_iff_eq_none.mp fun he =>
    nomatch Option.isNone_iff_eq_none.mp hnone ▸ h.earnedOwned p he
  exact { h with
    ownerSum := fun o2 => by rw [ownedSum_setOwner owner o o2 hp]; exact h.ownerSum o2
    earnedOwned := fun p2 hp2 => isSome_set _ _ _ _ (h.earnedOwned p2 hp2) }

/-- the owner withdraws the earnings of one provider: its record goes, and so does the owner's when nothing is left -/
theorem MInv.withdrawProv (h : MInv escBal reqs activeI earned ownerEarned owner) {p o : Addr}
    {escBal' : Nat} {ownerEarned' : Map Addr Nat}
    (ho : Map.get owner p = some o) (hb : escBal' + balOf earned p = escBal)
    (hoe : ownerEarned' = Map.del ownerEarned o ∧ balOf earned p = balOf ownerEarned o ∨
      ownerEarned' = Map.set ownerEarned o (balOf ownerEarned o - balOf earned p) ∧
        balOf earned p < balOf ownerEarned o) :
    MInv escBal' reqs activeI (Map.del earned p) ownerEarned' owner where
  escrow := by
    have := Map.total_del (fun n : Nat => n) earned p h.earnedK
    rw [← balOf_eq_valAt] at this
    have := h.escrow
    omega
  earnedK := Map.nodupKeys_del _ _ h.earnedK
  ownerEarnedK := by
    rcases hoe with ⟨rfl, _⟩ | ⟨rfl, _⟩
    · exact Map.nodupKeys_del _ _ h.ownerEarnedK
    · exact Map.nodupKeys_set _ _ _ h.ownerEarnedK
  ownerSum := fun o2 => by
    have h1 := ownedSum_del owner earned p o2 h.earnedK
    have h2 := h.ownerSum o2
    have h3 : balOf ownerEarned' o2 = if o = o2 then balOf ownerEarned o - balOf earned p else balOf ownerEarned o2 := by
      rcases hoe with ⟨rfl, heq⟩ | ⟨rfl, _⟩
      · rw [balOf_del, heq, Nat.sub_self]
      · rw [balOf_set]
    rw [ho] at h1
    by_cases hoo : o = o2
    · subst hoo
      rw [if_pos rfl] at h1 h3
      rw [h3, h2, ← h1, Nat.add_sub_cancel]
    · rw [if_neg fun e => hoo (Option.some.inj e)] at h1
      rw [if_neg hoo] at h3
      rw [h3, h2, ← h1]; rfl
  earnedOwned := fun p2 hp2 => by
    rw [Map.get_del] at hp2
    split at hp2
    · cases hp2
    · exact h.earnedOwned p2 hp2

/-- the owner withdraws everything: the earnings of all its providers are paid and deleted -/
theorem MInv.withdrawAll (h : MInv escBal reqs activeI earned ownerEarned owner) {o : Addr} {escBal' : Nat}
    (ps : List Addr) (hps : ∀ p, p ∈ ps ↔ Map.get owner p = some o)
    (hb : escBal' + balOf ownerEarned o = escBal) :
    MInv escBal' reqs activeI (ps.foldl (fun m p => Map.del m p) earned) (Map.del ownerEarned o) owner := by
  -- what is deleted is what the providers of `o` have earned
  rw [foldl_del_eq_filter, List.filter_congr (q := fun q => ¬ Map.get owner q.1 = some o) fun q _ => by simp only [hps]]
  exact {
    escrow := by
      have h1 := total_filter_split (fun n : Nat => n) earned fun q => Map.get owner q.1 = some o
      have h2 := h.ownerSum o
      have h3 := h.escrow
      unfold ownedSum at h2
      simp only [decide_not]
      omega
    earnedK := nodupKeys_filter _ _ h.earnedK
    ownerEarnedK := Map.nodupKeys_del _ _ h.ownerEarnedK
    ownerSum := fun o2 => by
      rw [ownedSum_filter_others, balOf_del]
      split
      · rfl
      · exact h.ownerSum o2
    earnedOwned := fun p2 hp2 => by
      rw [get_filter_key (fun p => ¬ Map.get owner p = some o)] at hp2
      split at hp2
      · exact h.earnedOwned p2 hp2
      · cases hp2 }

end SM
