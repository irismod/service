import ServiceModel.Proofs.Once
import ServiceModel.Proofs.CountEq
import ServiceModel.Proofs.Restart
/-!
# Exactly-once settlement over chains that go through zero-height restarts

`Spent s r` (Proofs/Once.lean): `r` is not pending, its context id has been used, and if its context still exists
the context's batch counter has reached `r`'s batch number. A restart keeps it: nothing is pending on the restarted
chain, used ids stay used (`restart` carries the ghost set `usedIds` over: E7), and a context comes back with the batch
counter it had. A request that was *pending* at the restart — the preparation refunds it — is spent afterwards.
Hence over every continuation by well-formed operations and restarts (`LeadsR`) a settled request is never pending again.
At the end: the counter equation of C12 (`ceq_reachableR`) and the contexts of C09 (`restart_ctxs`) over a restart.
-/
namespace SM
open Map

/-- nothing is pending on the restarted chain, and the used context ids are those of the old chain -/
theorem restart_fields {s s' : State} {height time : Int} (h : restart s height time = some s') :
    s'.activeI = [] ∧ s'.usedIds = s.usedIds := by
  obtain ⟨-, -, -, rfl⟩ := restart_eq.mp h
  exact ⟨rfl, rfl⟩

/-- a context of the restarted chain is a context of the old chain with the same batch counter -/
theorem restart_ctx_batch {s s' : State} (hall : InvAll s) {height time : Int} (hre : restart s height time = some s')
    (c : CtxId) (y : Ctx) (hy : get s'.ctxs c = some y) : ∃ x, get s.ctxs c = some x ∧ y.batch = x.batch := by
  obtain ⟨x, hx, rfl⟩ := restart_ctx_of hre hy
  exact ⟨x, hx, rfl⟩

theorem spent_after_restart {s s' : State} {height time : Int} (hre : restart s height time = some s') (r : ReqId)
    (hu : r.ctx ∈ s.usedIds) (hb : ∀ x, get s.ctxs r.ctx = some x → r.batch ≤ x.batch) : Spent s' r := by
  obtain ⟨f1, f2⟩ := restart_fields hre
  refine ⟨by rw [f1]; nofun, by rw [f2]; exact hu, fun y hy => ?_⟩
  obtain ⟨x, hx, rfl⟩ := restart_ctx_of hre hy
  exact hb x hx

theorem spent_restart {s s' : State} (hall : InvAll s) {height time : Int} (hre : restart s height time = some s')
    (r : ReqId) (hs : Spent s r) : Spent s' r :=
  spent_after_restart hre r hs.2.1 hs.2.2

/-- a request that is pending when the chain is restarted (the preparation refunds its fee) is spent afterwards -/
theorem spent_of_pending_at_restart {s s' : State} (hall : InvAll s) {height time : Int}
    (hre : restart s height time = some s') (r : ReqId) (hact : r ∈ s.activeI) : Spent s' r := by
  obtain ⟨q, x, hq, hx, hb, -⟩ := hall.inv.x.pending hact
  exact spent_after_restart hre r (hall.inv.x.used r.ctx (by rw [hx]; rfl))
    (fun x' hx' => by cases hx.symm.trans hx'; exact Nat.le_of_eq hb)

/-- well-formed continuations of a history, restarts included -/
inductive LeadsR : State → State → Prop
  | refl (s : State) : LeadsR s s
  | step {s s' : State} (op : Op) : WF s op → LeadsR (step s op).1 s' → LeadsR s s'
  | restart {s s1 s' : State} (height time : Int) : SM.restart s height time = some s1 → LeadsR s1 s' → LeadsR s s'

theorem Leads.toR {s s' : State} (h : Leads s s') : LeadsR s s' := by
  induction h with
  | refl s => exact .refl s
  | step op hw _ ih => exact .step op hw ih

theorem reachableR_of_leadsR {cfg : Config} {p : Params} {h0 t0 : Int} {s s' : State} (hr : ReachableR cfg p h0 t0 s) (hl : LeadsR s s') : ReachableR cfg p h0 t0 s' := by
  induction hl with
  | refl s => exact hr
  | step op hw _ ih => exact ih (ReachableR.step op hr hw)
  | restart height time hre _ ih => exact ih (ReachableR.restart height time hr hre)

theorem spent_leadsR {cfg : Config} {p : Params} {h0 t0 : Int} (hc : CfgOK cfg p) {s s' : State}
    (hr : ReachableR cfg p h0 t0 s) (hl : LeadsR s s') (r : ReqId) (hs : Spent s r) : Spent s' r := by
  induction hl with
  | refl s => exact hs
  | step op hw _ ih => exact ih (ReachableR.step op hr hw) (spent_step (reachableR_invAll hc hr).inv op hw r hs)
  | restart height time hre _ ih =>
    exact ih (ReachableR.restart height time hr hre) (spent_restart (reachableR_invAll hc hr) hre r hs)

/-! ### exact batch counters (C12) over chains with restarts -/
/-- after a restart no batch is running, so the counter equation holds vacuously -/
theorem restart_ceq {s s' : State} (hall : InvAll s) {height time : Int} (hre : restart s height time = some s') : CEq s' := by
  intro c y hy hrun
  obtain ⟨x, -, rfl⟩ := restart_ctx_of hre hy
  cases hrun

theorem ceq_reachableR {cfg : Config} {p : Params} {h0 t0 : Int} (hc : CfgOK cfg p) {s : State}
    (hr : ReachableR cfg p h0 t0 s) : CEq s := by
  induction hr with
  | init => exact fun _ _ h => nomatch h
  | @step s op hr' _ ih => exact step_ceq (reachableR_invAll hc hr').inv op ih
  | restart height time hr' hre _ => exact restart_ceq (reachableR_invAll hc hr') hre

/-! ### contexts over a restart (C09) -/
/-- the contexts of the restarted chain are exactly the contexts of the old chain, each reset (paused, batch completed,
    counters of the batch zero) and otherwise unchanged -/
theorem restart_ctxs {s s' : State} (hall : InvAll s) {height time : Int} (hre : restart s height time = some s')
    (c : CtxId) : get s'.ctxs c = (get s.ctxs c).map resetCtx := restart_ctx hre c

end SM
