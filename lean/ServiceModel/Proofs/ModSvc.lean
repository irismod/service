import ServiceModel.Proofs.MsgInv
import ServiceModel.Proofs.RefineCtx
import ServiceModel.Proofs.RefineRespond
import ServiceModel.Model.ModSvc
/-!
# The module-service call keeps the money and the bindings worlds consistent (one step, from any state satisfying
the invariants)

`callMod` (Model/ModSvc.lean) is outside `Op`/`step`. From a state satisfying `Inv`, a module-service call — accepted or
rejected, whatever the module answers — ends in a state that satisfies `InvM` and `InvB`. The invocation-world invariants
are *not* preserved by this branch (the request it issues has no expiry entry: DESIGN.md §10.10), which is why this is a
one-step statement and not part of `reachable_inv`.

A call rolls back to the state it was given, or ends with `respond` in the state `modIssued` (`callMod_cases`), where the
whole of `Inv` does not hold: so each world after `respond` follows from the hypotheses of that world alone
(`respond_invM_of`, `respond_invB_of`), by the lemmas about `MInv` / `BInv` that `Msg.inv_of` uses.
-/
namespace SM
open Map

theorem respond_invM_of (s : State) (r : ReqId) (prov : Addr) (code : Nat) (out : OutKind)
    (hM : InvM s) (hst : InvStatic s) (hB : InvB s) (hn : s.activeI.Nodup)
    (hside : ∀ q x0, get s.reqs r = some q → get s.ctxs r.ctx = some x0 →
      (get s.bindings (x0.svc, q.prov)).isSome ∧ ¬ isModAcct s.cfg x0.cons) :
    InvM (respond s r prov code out).1 := by
  obtain he | ⟨_, _, hm, he⟩ := (respond_msg (s := s) (r := r) (p := prov) (code := code) (o := out) rfl).state <;>
    rw [he]
  · exact hM
  cases hm with
  | respondBad hq hx hact hs hb => exact (Slash.of_done hs).refundM hst (hside _ _ hq hx).2 hb hM hn hq hact
  | respondGood hq hx hact _ hb htax =>
    obtain ⟨b, hb'⟩ := Option.isSome_iff_exists.mp (hside _ _ hq hx).1
    exact hM.earn hn hact (by rw [feeAt_of_get hq]; omega) (send_src hb hst.ec) (by rw [hB.ownerOf _ _ b hb']; rfl)

/-- the bindings world after `respond`, from the bindings-world hypotheses alone -/
theorem respond_invB_of (s : State) (r : ReqId) (prov : Addr) (code : Nat) (out : OutKind)
    (hst : InvStatic s) (hB : InvB s)
    (hside : ∀ q x0, get s.reqs r = some q → get s.ctxs r.ctx = some x0 → ¬ isModAcct s.cfg x0.cons) :
    InvB (respond s r prov code out).1 := by
  obtain he | ⟨_, _, hm, he⟩ := (respond_msg (s := s) (r := r) (p := prov) (code := code) (o := out) rfl).state <;>
    rw [he]
  · exact hB
  cases hm with
  | respondBad hq hx _ hs hb => exact (Slash.of_done hs).refundB hst (hside _ _ hq hx) hb hB
  | respondGood _ _ _ _ hb => exact hB.sameBal (send_keeps hb (fun e => hst.ed e.symm) hst.dc)

theorem eligible_single (s : State) (x : Ctx) (p : Addr) (hp : x.provs = [p]) (hne : ¬ (eligible s x).isEmpty = true) :
    (get s.bindings (x.svc, p)).isSome ∧
    eligible s x = [(p, priceOf (storedPricing s x.svc p) s.time ((get s.volume (x.cons, x.svc, p)).getD 0))] := by
  unfold eligible at hne ⊢
  rw [hp] at hne ⊢
  simp only [List.filterMap_cons, List.filterMap_nil] at hne ⊢
  cases hb : get s.bindings (x.svc, p) with
  | none => rw [hb] at hne; simp at hne
  | some b =>
    rw [hb] at hne
    dsimp only at hne ⊢
    by_cases h1 : b.avail = true ∧ (b.qos : Int) ≤ x.timeout
    · by_cases h2 : priceOf (storedPricing s x.svc p) s.time ((get s.volume (x.cons, x.svc, p)).getD 0) ≤ x.cap
      · refine ⟨rfl, ?_⟩
        rw [if_pos h1, if_pos h2]
      · rw [if_pos h1, if_neg h2] at hne; simp at hne
    · rw [if_neg h1] at hne; simp at hne

theorem sumPrices_single (a : Addr) (n : Nat) : sumPrices [(a, n)] = n := by
  unfold sumPrices; simp

/-- the request a module-service call issues: the first of batch 1 -/
abbrev modReq (s : State) (id : CtxId) : ReqId := { ctx := id, batch := 1, height := s.height.toNat, index := 0 }

/-- the state in which a module-service call records the module's answer: the context `x` is stored under the id and
    queued, the consumer has paid into escrow (`bank'`), and the one request of batch 1, with record `q`, is pending -/
abbrev modIssued (s : State) (id : CtxId) (x : Ctx) (q : Req) (bank' : Bank) : State :=
  { s with bank := bank', ctxs := set (set s.ctxs id x) id (nextBatch x 1), usedIds := id :: s.usedIds,
           newQ := FSet.ins s.newQ (s.height, id), newH := set s.newH id s.height,
           reqs := set s.reqs (modReq s id) q, activeB := FSet.ins s.activeB (x.svc, q.prov, q.expH, modReq s id),
           activeI := FSet.ins s.activeI (modReq s id) }

theorem callMod_cases (s : State) (id : CtxId) (svc : SvcName) (prov cons : Addr) (cap : Option Nat) (inputOk : Bool)
    (code : Nat) (out : OutKind) :
    (callMod s id svc prov cons cap inputOk code out).1 = s ∨
    ∃ x q bank', x.cons = cons ∧ (get s.bindings (x.svc, q.prov)).isSome ∧
      bankSend s.bank cons s.cfg.escrow q.fee = some bank' ∧
      (callMod s id svc prov cons cap inputOk code out).1 =
        (respond (modIssued s id x q bank') (modReq s id) prov code out).1 := by
  unfold callMod
  split
  · rename_i hc
    obtain ⟨_, hr, _, he⟩ | ⟨capv, -, he⟩ := createCtx_cases hc
    · cases he; exact absurd rfl hr
    cases he
    simp only [Map.get_set_same]
    unfold requestModSvc
    split; · exact .inl rfl
    rename_i hel
    obtain ⟨hbind, helq⟩ := eligible_single _ _ prov rfl hel
    rw [helq, sumPrices_single]
    split; · exact .inl rfl
    rename_i bank' hb
    -- `newCtxRec` is unfolded to decide `x.super`, so that the fee is the price as it stands: left as a conditional
    -- to the unification below, it makes the kernel unfold `priceOf`
    simp only [issueReqs, addActive, setCtx, newCtxRec, Bool.false_eq_true, if_false]
    generalize hr : respond _ _ _ _ _ = o
    obtain ⟨s3, res, e3⟩ := o
    cases res
    case ok =>
      refine .inr ⟨_, _, bank', ?_, ?_, ?_, congrArg (·.1) hr.symm⟩
      · rfl
      · exact hbind
      · exact hb
    all_goals exact .inl rfl
  · exact .inl rfl

theorem modIssued_invB {s : State} {id : CtxId} {x : Ctx} {q : Req} {bank' : Bank} (hst : InvStatic s) (hB : InvB s)
    (hcons : ¬ isModAcct s.cfg x.cons) (hb : bankSend s.bank x.cons s.cfg.escrow q.fee = some bank') :
    InvB (modIssued s id x q bank') :=
  hB.sameBal (send_keeps hb (fun e => hcons (.inr (.inl e.symm))) fun e => hst.ed e.symm)

/-- **C01 for the module-service call, one step.** From a state satisfying the invariants, with an ordinary account
    as consumer and a fresh context id, the state after `callMod` — accepted or rejected, whatever the module
    answers — satisfies the money-world invariant: escrow = pending fees + unwithdrawn earnings, owner earnings = sums. -/
theorem callMod_invM (s : State) (id : CtxId) (svc : SvcName) (prov cons : Addr) (cap : Option Nat) (inputOk : Bool)
    (code : Nat) (out : OutKind) (h : Inv s) (hcons : ¬ isModAcct s.cfg cons) (hfresh : id ∉ s.usedIds) :
    InvM (callMod s id svc prov cons cap inputOk code out).1 := by
  obtain he | ⟨x, q, bank', rfl, hbind, hb, he⟩ := callMod_cases s id svc prov cons cap inputOk code out <;> rw [he]
  · exact h.m
  -- the id is fresh, so no request of its context is pending
  have hr0 : modReq s id ∉ s.activeI := fun hm => by
    obtain ⟨_, y, _, hy, _⟩ := h.x.pending hm
    exact hfresh (h.x.used id (by rw [hy]; rfl))
  refine respond_invM_of _ _ _ _ _ ?_ h.static (modIssued_invB h.static h.b hcons hb)
    (FSet.nodup_ins _ _ h.x.activeNodup) fun q' x0 hq' hx0 => ?_
  · show MInv (balOf bank'.bal s.cfg.escrow) (set s.reqs (modReq s id) q) (FSet.ins s.activeI (modReq s id))
      s.earned s.ownerEarned s.owner
    refine h.m.issue [modReq s id] (by unfold FSet.ins; rw [if_neg hr0]) (fun r' hr' => ?_) ?_
    · exact Map.get_set_other _ _ _ _ fun e => hr0 (e ▸ hr')
    · rw [bankSend_dst hb fun e => hcons (.inl e)]
      simp [feeSum]
  · cases (Map.get_set_same ..).symm.trans hx0
    cases (Map.get_set_same ..).symm.trans hq'
    exact ⟨hbind, hcons⟩

/-- **C03 / C14 / C15 for the module-service call, one step.** From a state satisfying the invariants, the state after
    `callMod` — accepted or rejected, whatever the module answers, including a malformed output that slashes the
    module's own provider — satisfies the bindings-world invariant: the deposit account holds exactly the recorded
    deposits, an available binding holds the minimum for its price, indexes and price terms are consistent. -/
theorem callMod_invB (s : State) (id : CtxId) (svc : SvcName) (prov cons : Addr) (cap : Option Nat) (inputOk : Bool)
    (code : Nat) (out : OutKind) (h : Inv s) (hcons : ¬ isModAcct s.cfg cons) :
    InvB (callMod s id svc prov cons cap inputOk code out).1 := by
  obtain he | ⟨x, q, bank', rfl, -, hb, he⟩ := callMod_cases s id svc prov cons cap inputOk code out <;> rw [he]
  · exact h.b
  refine respond_invB_of _ _ _ _ _ h.static (modIssued_invB h.static h.b hcons hb) fun _ x0 _ hx0 => ?_
  cases (Map.get_set_same ..).symm.trans hx0
  exact hcons

/-- the invariants do not look at the reservation (`cfg.modsvc`) -/
theorem Inv.setModsvc {s : State} (h : Inv s) (m : Option SvcName) : Inv { s with cfg := { s.cfg with modsvc := m } } :=
  { static := { h.static with }, b := { h.b with }, x := { h.x with }, m := h.m, bound := h.bound }

/-- `modBind` (the application binding the provider of its module service through the keeper) preserves `Inv` -/
theorem modBind_inv (s : State) (svc : SvcName) (p o : Addr) (dep : Option Nat) (text : PricingText) (qos : Nat)
    (h : Inv s) (hw : ¬ s.modAcct o) : Inv (modBind s svc p o dep text qos).1 := by
  unfold modBind
  generalize hb : bind _ svc p o dep text qos = out
  obtain he | ⟨_, s', hm, rfl⟩ := (bind_msg hb).state
  · dsimp only; rw [he]; exact h
  · have h1 := (hm.inv_of (h.setModsvc none) hw nofun).setModsvc s.cfg.modsvc
    rwa [show s'.cfg = { s.cfg with modsvc := none } by cases hm; rfl] at h1

end SM
