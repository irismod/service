import ServiceModel.Proofs.RefineBind
import ServiceModel.Proofs.MWorld
/-!
`BInv` under the changes the operations make to its components. `BInv.setBinding` writes a binding together with its
price terms, the owner of its provider and both index entries. A new binding is that write as it stands; replacing a
binding by one of the same owner is the case in which the owner and the index entries are there already, so that
writing them changes nothing.
-/
namespace SM
open Map

variable {cfg : Config} {params : Params} {depBal : Nat} {defs : Map SvcName Definition}
  {bindings : Map (SvcName × Addr) Binding} {ownerBind : FSet (Addr × SvcName × Addr)}
  {owner : Map Addr Addr} {ownerProv : FSet (Addr × Addr)} {pricing : Map (SvcName × Addr) Pricing}

/-- only the deposit-account balance is restated (a bank move that does not touch it) -/
theorem BInv.sameBal
    (h : BInv cfg params depBal defs bindings ownerBind owner ownerProv pricing) {depBal' : Nat}
    (hb : depBal' = depBal) :
    BInv cfg params depBal' defs bindings ownerBind owner ownerProv pricing := by
  subst hb; exact h

theorem BInv.setBinding
    (h : BInv cfg params depBal defs bindings ownerBind owner ownerProv pricing)
    {svc : SvcName} {prov : Addr} {b' : Binding} {p' : Pricing} {depBal' : Nat}
    (hown : Map.get owner prov = none ∨ Map.get owner prov = some b'.owner) (hmod : ¬ isModAcct cfg b'.owner)
    (hdef : (Map.get defs svc).isSome) (hparse : parsePricing b'.text = .ok p') (hvalid : validPricing p' = true)
    (hbal : depBal' + valAt (fun b : Binding => b.deposit) bindings (svc, prov) = depBal + b'.deposit)
    (hmin : b'.avail = true → ∃ md, minDeposit params p' = some md ∧ md ≤ b'.deposit) :
    BInv cfg params depBal' defs (Map.set bindings (svc, prov) b') (FSet.ins ownerBind (b'.owner, svc, prov))
      (Map.set owner prov b'.owner) (FSet.ins ownerProv (b'.owner, prov)) (Map.set pricing (svc, prov) p') := by
  have hown' : ∀ o, get owner prov = some o → o = b'.owner := fun o ho => by
    rcases hown with hn | hs
    · cases hn.symm.trans ho
    · exact Option.some.inj (ho.symm.trans hs)
  have hold : ∀ b, get bindings (svc, prov) = some b → b.owner = b'.owner := fun b hb =>
    hown' _ (h.ownerOf svc prov b hb)
  exact {
    backed := by
      have := total_set (fun b : Binding => b.deposit) bindings (svc, prov) b'
      have := h.backed
      omega
    ownerOk := forall_set h.ownerOk hmod
    ownerOf := fun svc2 p2 b2 h2 => by
      rcases get_set_some h2 with ⟨hk, rfl⟩ | ⟨-, h3⟩
      · cases hk; exact get_set_same ..
      · have ho := h.ownerOf _ _ _ h3
        rw [get_set]
        split
        · subst p2; rw [hown' _ ho]
        · exact ho
    provIdx := fun o2 p2 => by
      have hm : ∀ a k2, (a, k2) ∈ ownerProv ↔ ∃ w, get owner k2 = some w ∧ id w = a := by
        simpa only [id, exists_eq_right] using h.provIdx
      simpa only [id, exists_eq_right] using FSet.mirror_ins_set hm hown' o2 p2
    bindIdx := fun o2 svc2 p2 =>
      FSet.mirror_ins_set (f := Binding.owner) (fun a k2 => h.bindIdx a k2.1 k2.2) hold o2 (svc2, p2)
    priced := fun k2 b2 h2 => by
      rcases get_set_some h2 with ⟨rfl, rfl⟩ | ⟨hne, h3⟩
      · exact ⟨p', get_set_same .., hparse, hvalid⟩
      · rw [get_set_other _ _ _ _ hne]; exact h.priced _ _ h3
    pricingOnly := fun k2 h2 => by
      by_cases hk : (svc, prov) = k2
      · subst hk; rw [get_set_same]; rfl
      · rw [get_set_other _ _ _ _ hk] at h2 ⊢; exact h.pricingOnly k2 h2
    defined := fun svc2 p2 h2 => by
      by_cases hk : (svc, prov) = (svc2, p2)
      · cases hk; exact hdef
      · rw [get_set_other _ _ _ _ hk] at h2; exact h.defined svc2 p2 h2
    ownerHas := fun p2 o2 ho => by
      rcases get_set_some ho with ⟨rfl, -⟩ | ⟨-, ho⟩
      · exact ⟨svc, by rw [get_set_same]; rfl⟩
      · obtain ⟨svc2, hs⟩ := h.ownerHas p2 o2 ho
        exact ⟨svc2, isSome_set _ _ _ _ hs⟩
    minDep := fun k2 b2 h2 hav => by
      rcases get_set_some h2 with ⟨rfl, rfl⟩ | ⟨hne, h3⟩
      · obtain ⟨md, h1, h2⟩ := hmin hav
        exact ⟨p', md, get_set_same .., h1, h2⟩
      · rw [get_set_other _ _ _ _ hne]; exact h.minDep _ _ h3 hav }

/-- The record is spelt out so that every hypothesis is about variables: with `b.text` in `hparse` and `b` known only
    from the goal, applying the lemma makes Lean unfold `parsePricing`. -/
theorem BInv.addBinding
    (h : BInv cfg params depBal defs bindings ownerBind owner ownerProv pricing)
    {svc : SvcName} {prov o : Addr} {d : Nat} {avail : Bool} {disabledAt : Int} {qos : Nat} {text : PricingText}
    {p : Pricing}
    (hnone : Map.get bindings (svc, prov) = none) (hdef : (Map.get defs svc).isSome)
    (hown : Map.get owner prov = none ∨ Map.get owner prov = some o) (hmod : ¬ isModAcct cfg o)
    (hparse : parsePricing text = .ok p) (hvalid : validPricing p = true)
    (hmin : ∃ md, minDeposit params p = some md ∧ md ≤ d) :
    BInv cfg params (depBal + d) defs
      (Map.set bindings (svc, prov)
        { owner := o, deposit := d, avail := avail, disabledAt := disabledAt, qos := qos, text := text })
      (FSet.ins ownerBind (o, svc, prov))
      (if (Map.get owner prov).isNone then Map.set owner prov o else owner)
      (if (Map.get owner prov).isNone then FSet.ins ownerProv (o, prov) else ownerProv)
      (Map.set pricing (svc, prov) p) := by
  have := h.setBinding (b' := { owner := o, deposit := d, avail := avail, disabledAt := disabledAt, qos := qos, text := text })
    hown hmod hdef hparse hvalid (by rw [valAt_eq_zero _ _ _ hnone]; rfl) fun _ => hmin
  rw [ite_isNone_set hown]
  -- the provider's index entry is there already when the provider has its owner
  rcases hown with hn | hs
  · rw [hn]; exact this
  · rw [hs]; rwa [FSet.ins_of_mem ((h.provIdx o prov).mpr hs)] at this

theorem BInv.updateBindingPricing
    (h : BInv cfg params depBal defs bindings ownerBind owner ownerProv pricing)
    {k : SvcName × Addr} {b b' : Binding} {p' : Pricing} {depBal' : Nat}
    (hk : Map.get bindings k = some b) (hown : b'.owner = b.owner)
    (htext : parsePricing b'.text = .ok p' ∧ validPricing p' = true)
    (hbal : depBal' + b.deposit = depBal + b'.deposit)
    (hmin : b'.avail = true → ∃ md, minDeposit params p' = some md ∧ md ≤ b'.deposit) :
    BInv cfg params depBal' defs (Map.set bindings k b') ownerBind owner ownerProv (Map.set pricing k p') := by
  obtain ⟨svc, prov⟩ := k
  have ho := h.ownerOf svc prov b hk
  have := h.setBinding (b' := b') (.inr (hown ▸ ho)) (hown ▸ h.ownerOk _ _ hk) (h.defined svc prov (by rw [hk]; rfl))
    htext.1 htext.2 (by rw [valAt_eq_of_get _ _ _ _ hk]; exact hbal) hmin
  rwa [hown, set_get_same _ _ _ ho, FSet.ins_of_mem ((h.bindIdx _ _ _).mpr ⟨b, hk, rfl⟩),
    FSet.ins_of_mem ((h.provIdx _ _).mpr ho)] at this

theorem BInv.updateBinding
    (h : BInv cfg params depBal defs bindings ownerBind owner ownerProv pricing)
    {k : SvcName × Addr} {b b' : Binding} {depBal' : Nat}
    (hk : Map.get bindings k = some b) (hown : b'.owner = b.owner) (htext : b'.text = b.text)
    (hbal : depBal' + b.deposit = depBal + b'.deposit)
    (hmin : b'.avail = true → ∃ p md, Map.get pricing k = some p ∧ minDeposit params p = some md ∧ md ≤ b'.deposit) :
    BInv cfg params depBal' defs (Map.set bindings k b') ownerBind owner ownerProv pricing := by
  obtain ⟨p, hp, hparse, hvalid⟩ := h.priced k b hk
  have := h.updateBindingPricing hk hown ⟨by rw [htext]; exact hparse, hvalid⟩ hbal fun hav => by
    obtain ⟨p2, md, h1, h2⟩ := hmin hav
    rw [hp] at h1; cases h1; exact ⟨md, h2⟩
  rwa [Map.set_get_same _ _ _ hp] at this

theorem BInv.addDef
    (h : BInv cfg params depBal defs bindings ownerBind owner ownerProv pricing) (n : SvcName) (d : Definition) :
    BInv cfg params depBal (Map.set defs n d) bindings ownerBind owner ownerProv pricing :=
  { h with defined := fun svc p hb => isSome_set _ _ _ _ (h.defined svc p hb) }

theorem BInv.update (h : BInv cfg params depBal defs bindings ownerBind owner ownerProv pricing)
    {k : SvcName × Addr} {b : Binding} {dep : Option Nat} {text : Option PricingText} {qos : Nat} {pr : Pricing}
    (hk : get bindings k = some b)
    (hpr : (text = none ∧ get pricing k = some pr) ∨
      (∃ t, text = some t ∧ parsePricing t = .ok pr ∧ validPricing pr = true))
    (hmin : minCheck params (updatedB b dep text qos) (decide (qos ≠ 0) || dep.isSome || text.isSome) pr = none) :
    BInv cfg params (depBal + dep.getD 0) defs (set bindings k (updatedB b dep text qos)) ownerBind owner ownerProv
      (if text.isSome then set pricing k pr else pricing) := by
  have hbal : depBal + dep.getD 0 + b.deposit = depBal + (updatedB b dep text qos).deposit := by
    show _ = depBal + (b.deposit + dep.getD 0); omega
  rcases hpr with ⟨rfl, hp⟩ | ⟨t, rfl, hparse, hvalid⟩
  · refine h.updateBinding hk rfl rfl hbal fun hav => ?_
    by_cases hu : (decide (qos ≠ 0) || dep.isSome) = true
    · obtain ⟨md, h1, h2⟩ := minCheck_none hmin hav (by rw [hu]; rfl)
      exact ⟨pr, md, hp, h1, h2⟩
    · -- nothing was changed
      obtain ⟨rfl, rfl⟩ : qos = 0 ∧ dep = none := by simpa using hu
      exact h.minDep k b hk hav
  · exact h.updateBindingPricing hk rfl ⟨hparse, hvalid⟩ hbal fun hav => minCheck_none hmin hav (by simp)

theorem Slash.invB {s s1 : State} {r : ReqId} {svc : SvcName} {p : Addr} {e : List Effect}
    (h : InvB s) (hs : Slash s r svc p e s1) : InvB s1 := by
  cases hs with
  | unbound | refused => exact h
  | @burnt b bank' md hb hle hburn hmd =>
    obtain ⟨hown, htext, -, hdep, havail⟩ := slashedB_spec b (b.deposit * s.params.slash / decUnit) md s.time
    refine h.updateBinding hb hown htext ?_ fun hav => ?_
    · show balOf bank'.bal s.cfg.deposit + b.deposit = balOf s.bank.bal s.cfg.deposit + _
      have := bankBurn_le hburn
      rw [hdep, bankBurn_bal hburn, if_pos rfl]; omega
    · obtain ⟨pr, hpr, _, _⟩ := h.priced _ _ hb
      obtain ⟨hav, hmin⟩ := havail hav
      exact ⟨pr, md, hpr, storedPricing_of_get hpr ▸ hmd hav, hdep ▸ hmin⟩

/-- `Slash` keeps the bindings world: the burn lowers the deposit account and the recorded
    deposit by the same amount; the binding stays available only above its minimum -/
theorem slash_invB {s s1 : State} {r : ReqId} {svc : SvcName} {p : Addr} {e : List Effect}
    (h : InvB s) (hs : slash s r svc p = .done s1 e) : InvB s1 := Slash.invB h (.of_done hs)

/-! A pending request is settled by slashing its provider and returning its fee from the escrow to `cons` (a malformed
response, an expiry): the burn and the refund keep the deposit account and the escrow in step with their records. -/
section refund
variable {s s1 : State} {r : ReqId} {svc : SvcName} {p cons : Addr} {e1 : List Effect} {bank' : Bank} {q : Req}
  (hs : Slash s r svc p e1 s1) (hst : InvStatic s) (hcons : ¬ isModAcct s.cfg cons)
  (hb : bankSend s1.bank s.cfg.escrow cons q.fee = some bank')
include hs hst hcons hb

theorem Slash.refundB (hB : InvB s) :
    BInv s.cfg s.params (balOf bank'.bal s.cfg.deposit) s.defs s1.bindings s.ownerBind s.owner s.ownerProv s.pricing := by
  have hB1 := hs.invB hB
  rw [hs.frame] at hB1
  exact hB1.sameBal (send_keeps hb (fun e => hst.ed e.symm) fun e => hcons (.inr (.inl e.symm)))

theorem Slash.refundM (hM : InvM s) (hn : s.activeI.Nodup) (hq : get s.reqs r = some q) (hact : r ∈ s.activeI) :
    MInv (balOf bank'.bal s.cfg.escrow) s.reqs (FSet.rem s.activeI r) s.earned s.ownerEarned s.owner := by
  have hesc := send_src hb fun e => hcons (.inl e.symm)
  rw [hs.escrow hst, ← feeAt_of_get hq] at hesc
  exact hM.refundReq hn hact hesc

end refund

theorem providersOf_mem (s : State) (hB : InvB s) (o p : Addr) :
    p ∈ providersOf s o ↔ Map.get s.owner p = some o :=
  (mem_filter_fst_map_snd _ o p).trans (hB.provIdx o p)

end SM
