import ServiceModel.Proofs.LiftInv
import ServiceModel.Proofs.Reachable
import ServiceModel.Proofs.CtxEvol
/-!
# C02 / C08: a request is pending at most once in a history

A request that has stopped being pending (answered, or expired) is `Spent`: its context id is used, and the
context — if it still exists — has a batch counter at least the request's batch number. `Spent` is kept by every
well-formed step: new pending requests are only created by the new-batch handler, for an existing context, with a
batch number above that context's counter (which never decreases), and a context id is never used twice (E7).
Since a settlement (by a response or by the expiry) needs the request to be pending, each request is settled at
most once in every history.
-/
namespace SM
open Map

/-- where pending requests come from in a step, and that used context ids stay used -/
def AOrig (s s' : State) : Prop :=
  (∀ c, c ∈ s.usedIds → c ∈ s'.usedIds) ∧
  (∀ r, r ∈ s'.activeI → r ∈ s.activeI ∨ ∃ x, get s.ctxs r.ctx = some x ∧ x.batch < r.batch)

theorem AOrig.refl (s : State) : AOrig s s := ⟨fun _ h => h, fun _ h => Or.inl h⟩

theorem AOrig.of_subset {s s' : State} (h1 : s'.usedIds = s.usedIds) (h2 : ∀ r, r ∈ s'.activeI → r ∈ s.activeI) :
    AOrig s s' :=
  ⟨fun c h => by rw [h1]; exact h, fun r h => Or.inl (h2 r h)⟩

/-- the counter of the context of a new request is read in the first state: it must not have decreased since -/
theorem AOrig.trans {a b c : State} (h1 : AOrig a b) (he : CtxsEvol a b) (h2 : AOrig b c) : AOrig a c := by
  refine ⟨fun k h => h2.1 k (h1.1 k h), fun r hr => ?_⟩
  rcases h2.2 r hr with hb | ⟨y, hy, hlt⟩
  · exact h1.2 r hb
  · obtain ⟨x, hx, hev⟩ := he r.ctx y hy
    exact Or.inr ⟨x, hx, Nat.lt_of_le_of_lt hev.batch hlt⟩

theorem Msg.aorig {s s' : State} {op : Op} {e : List Effect} (h : Msg s op e s') : AOrig s s' := by
  cases h with
  | call | modcreate => exact ⟨fun _ h => List.mem_cons_of_mem _ h, fun _ h => Or.inl h⟩
  | respondBad | respondGood => exact .of_subset rfl fun _ h => ((FSet.mem_rem _ _ _).mp h).1
  | _ => exact .of_subset rfl fun _ h => h

theorem Expire.shrinks {s s' : State} {x : Ctx} {r : ReqId} {e : List Effect} (h : Expire s x r e s') :
    s'.usedIds = s.usedIds ∧ ∀ r2, r2 ∈ s'.activeI → r2 ∈ s.activeI := by
  cases h <;> exact ⟨rfl, fun _ h => ((FSet.mem_rem _ _ _).mp h).1⟩

theorem Close.shrinks {s s' : State} {c : CtxId} {e : List Effect} (h : Close s c e s') :
    s'.usedIds = s.usedIds ∧ ∀ r, r ∈ s'.activeI → r ∈ s.activeI := by
  cases h <;> exact ⟨rfl, fun _ h => h⟩

/-- the requests `issueReqs` makes pending belong to the next batch of its context -/
theorem New.aorig {s s' : State} {c : CtxId} {e : List Effect} (h : New s c e s') : AOrig s s' := by
  cases h with
  | @issue x _ _ hx =>
    refine ⟨fun _ h => h, fun r hr => (issueReqs_pending hr).imp_right fun ⟨hc, hb⟩ => ⟨x, ?_, ?_⟩⟩
    · rw [hc]; exact hx
    · rw [hb]; exact Nat.lt_succ_self _
  | _ => exact .of_subset rfl fun _ h => h

theorem expireBatch_shrinks {s : State} (h : Inv s) (c : CtxId) :
    (expireBatch s c).s.usedIds = s.usedIds ∧ ∀ r, r ∈ (expireBatch s c).s.activeI → r ∈ s.activeI :=
  expireBatch_liftI (R := fun s _ s' => s'.usedIds = s.usedIds ∧ ∀ r, r ∈ s'.activeI → r ∈ s.activeI)
    (fun _ => ⟨rfl, fun _ h => h⟩) (fun h1 h2 => ⟨h2.1.trans h1.1, fun r h => h1.2 r (h2.2 r h)⟩)
    (fun _ _ _ _ h => h.shrinks) (fun _ _ _ h => h.shrinks) h c

theorem expireBatch_aorig {s : State} (h : Inv s) (c : CtxId) : AOrig s (expireBatch s c).s :=
  .of_subset (expireBatch_shrinks h c).1 (expireBatch_shrinks h c).2

theorem newBatch_aorig (s : State) (c : CtxId) : AOrig s (newBatch s c).s :=
  newBatch_of (R := fun _ s' => AOrig s s') s c (.refl s) fun _ h => h.aorig

/-- `AOrig` composes along the handlers because they let the contexts only evolve -/
theorem endBlock_aorig {s : State} (h : Inv s) (dt : Int) : AOrig s (endBlock s dt).s :=
  (endBlock_liftH (R := fun s _ s' => AOrig s s' ∧ CtxsEvol s s') (fun s => ⟨.refl s, .refl s⟩)
    (fun h1 h2 => ⟨h1.1.trans h1.2 h2.1, h1.2.trans h2.2⟩)
    (fun s c hs => ⟨expireBatch_aorig hs c, expireBatch_evol s c (expireBatch_nopanic hs c)⟩)
    (fun s c _ => ⟨newBatch_aorig s c, newBatch_evol s c⟩)
    (fun s _ _ => ⟨.of_subset rfl fun _ h => h, CtxsEvol.refl s⟩) h dt).1

theorem step_aorig (s : State) (op : Op) (h : Inv s) : AOrig s (step s op).1 :=
  step_of op (.refl s) (fun _ hm => hm.aorig) fun _ _ => endBlock_aorig h _

theorem exec_aorig (s : State) (op : Op) (h : Inv s) : AOrig s (exec s op).1 :=
  exec_of op (.refl s) (fun hm => hm.aorig) fun _ => step_aorig s op h

/-- the request belongs to a batch that has already been started -/
def Old (s : State) (r : ReqId) : Prop :=
  r.ctx ∈ s.usedIds ∧ ∀ x, get s.ctxs r.ctx = some x → r.batch ≤ x.batch

theorem old_of_req {s : State} (h : Inv s) {r : ReqId} {q : Req} (hq : get s.reqs r = some q) : Old s r := by
  obtain ⟨x, hx, hb, _⟩ := h.x.reqCtx r q hq
  exact ⟨h.x.used r.ctx (by rw [hx]; rfl), fun y hy => by rw [hx] at hy; cases hy; exact Nat.le_of_eq hb⟩

theorem Old.mono {s s' : State} {r : ReqId} (ho : Old s r) (ha : AOrig s s') (he : CtxsEvol s s') : Old s' r :=
  ⟨ha.1 _ ho.1, fun y hy => by
    obtain ⟨x, hx, hev⟩ := he r.ctx y hy
    exact Nat.le_trans (ho.2 x hx) hev.batch⟩

theorem Old.not_new {s s' : State} {r : ReqId} (ho : Old s r) (ha : AOrig s s') (hr : r ∈ s'.activeI) :
    r ∈ s.activeI := by
  rcases ha.2 r hr with h | ⟨x, hx, hlt⟩
  · exact h
  · exact absurd (ho.2 x hx) (Nat.not_le_of_lt hlt)

theorem old_step {s : State} (h : Inv s) (op : Op) (hw : WF s op) (r : ReqId) (ho : Old s r) : Old (step s op).1 r := by
  refine ⟨(step_aorig s op h).1 _ ho.1, fun y hy => ?_⟩
  rcases step_ctx_origin op hw r.ctx y hy with ⟨x, hx, hev⟩ | ⟨hfresh, _, _⟩
  · exact Nat.le_trans (ho.2 x hx) hev.batch
  · exact absurd ho.1 hfresh

/-- a request that can never be pending again -/
def Spent (s : State) (r : ReqId) : Prop :=
  r ∉ s.activeI ∧ r.ctx ∈ s.usedIds ∧ (∀ x, get s.ctxs r.ctx = some x → r.batch ≤ x.batch)

theorem spent_step {s : State} (h : Inv s) (op : Op) (hw : WF s op) (r : ReqId) (hs : Spent s r) :
    Spent (step s op).1 r :=
  ⟨fun hm => hs.1 (Old.not_new hs.2 (step_aorig s op h) hm), old_step h op hw r hs.2⟩

/-- a request that stops being pending in a step is spent afterwards -/
theorem spent_of_deactivated {s : State} (h : Inv s) (op : Op) (hw : WF s op) (r : ReqId)
    (hact : r ∈ s.activeI) (hgone : r ∉ (step s op).1.activeI) : Spent (step s op).1 r := by
  obtain ⟨q, _, hq, _⟩ := h.x.pending hact
  exact ⟨hgone, old_step h op hw r (old_of_req h hq)⟩

/-- well-formed continuations of a history -/
inductive Leads : State → State → Prop
  | refl (s : State) : Leads s s
  | step {s s' : State} (op : Op) : WF s op → Leads (step s op).1 s' → Leads s s'

theorem reachable_of_leads {cfg : Config} {p : Params} {h0 t0 : Int} {s s' : State}
    (hr : Reachable cfg p h0 t0 s) (hl : Leads s s') : Reachable cfg p h0 t0 s' := by
  induction hl with
  | refl s => exact hr
  | step op hw _ ih => exact ih (Reachable.step op hr hw)

theorem Leads.keeps {cfg : Config} {p : Params} {h0 t0 : Int} (hc : CfgOK cfg p) {P : State → Prop}
    (hP : ∀ {s op}, Inv s → WF s op → P s → P (SM.step s op).1) {s s' : State} (hr : Reachable cfg p h0 t0 s)
    (hl : Leads s s') (h : P s) : P s' := by
  induction hl with
  | refl s => exact h
  | step op hw _ ih => exact ih (Reachable.step op hr hw) (hP (reachable_inv hc hr) hw h)

theorem spent_leads {cfg : Config} {p : Params} {h0 t0 : Int} (hc : CfgOK cfg p) {s s' : State}
    (hr : Reachable cfg p h0 t0 s) (hl : Leads s s') (r : ReqId) (hs : Spent s r) : Spent s' r :=
  hl.keeps hc (fun hi hw => spent_step hi _ hw r) hr hs

end SM
