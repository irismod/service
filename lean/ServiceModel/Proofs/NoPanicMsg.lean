import ServiceModel.Proofs.Settle
/-!
Which messages can make the handler panic: only `bind`, `update` and `enable`, and only through checked `sdk.Int`
arithmetic on amounts of about 2^255 (finding D9). In a state satisfying the invariants every other message and keeper
entry point returns an error or succeeds: of the panics that `Panics` lists, those of `respond` (the slash or the
refund of a malformed answer fails) and of `withdraw` (an owner's record below a provider's) are excluded by `Inv`, the
call of the module's own service by `WF`.
-/
namespace SM

def Res.isPanic : Res → Bool
  | .panic _ => true
  | _ => false

/-- The only operations whose handler can panic. -/
def Op.isDepositMsg : Op → Bool
  | .bind .. => true
  | .update .. => true
  | .enable .. => true
  | _ => false

theorem Res.isPanic_iff {r : Res} : r.isPanic = true ↔ ∃ m, r = .panic m := by
  cases r <;> simp [Res.isPanic]

theorem setwd_nopanic (s : State) (o a : Addr) : (setwd s o a).2.1.isPanic = false := rfl

variable {s : State}

theorem exec_nopanic (h : Inv s) (op : Op) (hw : WF s op) (hne : op.isEndblock = false)
    (hnd : op.isDepositMsg = false) : (exec s op).2.1.isPanic = false := by
  cases hr : (exec s op).2.1 with
  | panic m =>
    exfalso
    cases (exec_handled hne).panics hr with
    | bindParse | bindMin | updateSum | updateTerms | updateMin | enableSum | enableMin => cases hnd
    | settle hq hx hact hs =>
      -- in a state satisfying the invariants the settlement of an admissible response always succeeds
      obtain ⟨res, hres⟩ := settle_succeeds h _ _ _ _ _ hq hact
      rw [hres] at hs; cases hs
    | @withdraw o p _ hown hrec =>
      -- an owner's recorded earnings are never below those of one of its providers
      obtain ⟨-, hp, hlt⟩ := withdrawRecords_error hrec
      have h1 := ownedSum_del s.owner s.earned p o h.m.earnedK
      rw [if_pos (hown hp), ← h.m.ownerSum o] at h1
      omega
    | modsvc hm => exact hw.2.2 hm
  | _ => rfl

end SM
