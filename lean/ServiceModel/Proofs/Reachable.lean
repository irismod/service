import ServiceModel.Proofs.Lift
import ServiceModel.Proofs.MsgInv
import ServiceModel.Proofs.EndBlock
namespace SM

theorem step_inv (s : State) (op : Op) (h : Inv s) (hw : WF s op) : Inv (step s op).1 :=
  step_of (R := fun _ s' => Inv s') op h (fun hv hm => hm.inv h hw hv) fun _ hnp => endBlock_inv s _ h hnp

theorem genesis_inv (cfg : Config) (p : Params) (h0 t0 : Int) (hc : CfgOK cfg p) : Inv (genesis cfg p h0 t0) := by
  refine { static := ?_, b := ?_, x := ?_, m := ?_, bound := ?_ }
  · exact { ed := hc.ed, ec := hc.ec, dc := hc.dc, mult_pos := hc.mult_pos, maxT_pos := hc.maxT_pos,
            tax_lt := hc.tax_lt, slash_le := hc.slash_le, complaint_pos := hc.complaint_pos,
            arbitration_pos := hc.arbitration_pos }
  · refine { backed := rfl, ownerOk := ?_, ownerOf := ?_, provIdx := ?_, bindIdx := ?_, priced := ?_,
             pricingOnly := ?_, defined := ?_, ownerHas := ?_, minDep := ?_ }
    all_goals simp [genesis]
  · refine { ctxWF := ?_, ctxCons := ?_, newMirror := ?_, expMirror := ?_, single := ?_, newFuture := ?_,
             expFuture := ?_, runningQ := ?_, used := ?_, reqCtx := ?_, activeReq := ?_, activeMirror := ?_,
             respReq := ?_, activeNodup := ?_, bRunExp := ?_, activeRunning := ?_, counts := ?_ }
    all_goals simp [genesis]
  · refine { escrow := rfl, earnedK := ?_, ownerEarnedK := ?_, ownerSum := ?_, earnedOwned := ?_ }
    all_goals simp [genesis, Map.NodupKeys, Map.keys, balOf, ownedSum]
  · intro r q hq; simp [genesis] at hq

/-- the main induction: every state reachable from genesis by well-formed operations satisfies all invariants -/
theorem reachable_inv {cfg : Config} {p : Params} {h0 t0 : Int} (hc : CfgOK cfg p) {s : State}
    (hr : Reachable cfg p h0 t0 s) : Inv s := by
  induction hr with
  | init => exact genesis_inv cfg p h0 t0 hc
  | step op _ hw ih => exact step_inv _ op ih hw

end SM
