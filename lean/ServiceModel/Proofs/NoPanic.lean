import ServiceModel.Proofs.Settle
/-!
From a state satisfying `Inv` the end of a block does not panic, and every handler keeps `Inv`. The only panic site of
the end blocker (model: `SlashRes.overflow`, code: checked `sdk.Int` multiplication in `getMinDeposit` called from
`Slash`) needs an available binding whose minimum deposit overflows; `BInv.minDep` excludes it (`slash_succeeds`).

The handlers are walked once, with `Inv` in hand at every piece of work, for an arbitrary reflexive transitive relation
`R` that holds of the pieces (`expireFold_walk`, `expireBatch_walk`); `Proofs/LiftInv.lean` states the result for `R`.
-/
namespace SM
open Map

/-- the settlement of expired requests writes the bank, the bindings and the pending markers only -/
def EFrame (s s' : State) : Prop :=
  s' = { s with bank := s'.bank, bindings := s'.bindings, activeB := s'.activeB, activeI := s'.activeI }

theorem EFrame.trans {a b c : State} (h1 : EFrame a b) (h2 : EFrame b c) : EFrame a c := by
  unfold EFrame at *; rw [h2, h1]

theorem nodup_pendingOf {s : State} (h : s.activeI.Nodup) (c : CtxId) (x : Ctx) : (pendingOf s c x).Nodup := by
  unfold pendingOf; split
  · exact nodup_sortReqIds _ (List.Nodup.sublist List.filter_sublist h)
  · exact List.nodup_nil

/-- every pending request of a stored context belongs to its current batch, which its responses have not completed -/
theorem mem_pendingOf_of {s : State} {c : CtxId} {x : Ctx} {r : ReqId} (h : InvX s) (hx : get s.ctxs c = some x)
    (hr : r ∈ s.activeI) (hc : r.ctx = c) : r ∈ pendingOf s c x := by
  subst hc
  obtain ⟨q, y, hq, hy, hb, -⟩ := h.pending hr
  cases hx.symm.trans hy
  unfold pendingOf
  rw [if_pos (by rw [h.running hr hx]; simp), mem_sortReqIds]
  exact List.mem_filter.mpr ⟨hr, by simpa using hb⟩

section walk
variable {R : State → List Effect → State → Prop} (refl : ∀ s, R s [] s)
  (trans : ∀ {a b c e1 e2}, R a e1 b → R b e2 c → R a (e1 ++ e2) c)
  (hE : ∀ {s x r e s'}, Inv s → get s.ctxs r.ctx = some x → r ∈ s.activeI → (s.height, r.ctx) ∈ s.expQ →
    Expire s x r e s' → R s e s')
  (hC : ∀ {s c e s'}, Inv s → (s.height, c) ∈ s.expQ → (∀ r ∈ s.activeI, r.ctx ≠ c) → Close s c e s' → R s e s')
include refl trans hE

theorem expireFold_walk {x : Ctx} {c : CtxId} (ids : List ReqId) {s : State} (h : Inv s) (hx : get s.ctxs c = some x)
    (hids : ∀ r ∈ ids, r ∈ s.activeI ∧ r.ctx = c) (hnd : ids.Nodup) :
    (foldH (expireReq x) s ids).panic = none ∧ Inv (foldH (expireReq x) s ids).s ∧
    EFrame s (foldH (expireReq x) s ids).s ∧
    (∀ r, r ∈ (foldH (expireReq x) s ids).s.activeI ↔ r ∈ s.activeI ∧ r ∉ ids) ∧
    ((s.height, c) ∈ s.expQ → R s (foldH (expireReq x) s ids).effs (foldH (expireReq x) s ids).s) := by
  induction ids generalizing s with
  | nil => exact ⟨rfl, h, rfl, fun r => by simp [foldH], fun _ => refl s⟩
  | cons r rest ih =>
    obtain ⟨hr, rfl⟩ := hids r (List.mem_cons_self ..)
    obtain ⟨hp, hat⟩ := expireReq_expire h x r
    have hf := hat.frame
    have ha : (expireReq x s r).s.activeI = FSet.rem s.activeI r := congrArg State.activeI hf
    obtain ⟨hn1, hn2⟩ := List.nodup_cons.mp hnd
    obtain ⟨j1, j2, j3, j4, j5⟩ := ih (hat.inv h hx hr) (by rw [hf]; exact hx)
      (fun r2 h2 => ⟨by rw [ha, FSet.mem_rem]; exact ⟨(hids r2 (.tail _ h2)).1, fun e => hn1 (e ▸ h2)⟩,
        (hids r2 (.tail _ h2)).2⟩) hn2
    rw [foldH_cons]; simp only [hp]
    refine ⟨j1, j2, EFrame.trans (by rw [EFrame, hf]) j3, fun r2 => ?_,
      fun hdue => trans (hE h hx hr hdue hat) (j5 (by rw [hf]; exact hdue))⟩
    rw [j4, ha, FSet.mem_rem]
    simp only [List.mem_cons, not_or, and_assoc]

theorem expirePending_walk {s : State} {c : CtxId} {x : Ctx} (h : Inv s) (hx : get s.ctxs c = some x) :
    (foldH (expireReq x) s (pendingOf s c x)).panic = none ∧ Inv (foldH (expireReq x) s (pendingOf s c x)).s ∧
    EFrame s (foldH (expireReq x) s (pendingOf s c x)).s ∧
    (∀ r ∈ (foldH (expireReq x) s (pendingOf s c x)).s.activeI, r.ctx ≠ c) ∧
    ((s.height, c) ∈ s.expQ →
      R s (foldH (expireReq x) s (pendingOf s c x)).effs (foldH (expireReq x) s (pendingOf s c x)).s) := by
  obtain ⟨i1, i2, i3, i4, i5⟩ := expireFold_walk refl trans hE (pendingOf s c x) h hx
    (fun r hr => ⟨(mem_pendingOf hr).1, (mem_pendingOf hr).2.1⟩) (nodup_pendingOf h.x.activeNodup c x)
  exact ⟨i1, i2, i3, fun r hr hc => ((i4 r).mp hr).2 (mem_pendingOf_of h.x hx ((i4 r).mp hr).1 hc), i5⟩

include hC

theorem expireBatch_walk {s : State} (h : Inv s) (c : CtxId) :
    (expireBatch s c).panic = none ∧ Inv (expireBatch s c).s ∧ R s (expireBatch s c).effs (expireBatch s c).s := by
  rcases expireBatch_cases s c with ⟨-, he⟩ | ⟨hdue, hx, -⟩ | ⟨x, _, hdue, hx, rfl, hcl⟩
  · rw [he]; exact ⟨rfl, h, refl s⟩
  · have := (h.x.expFuture c _ ((h.x.expMirror _ _).mp hdue)).2
    rw [hx] at this; cases this
  · obtain ⟨hnp, i1, hf, i3, i4⟩ := expirePending_walk refl trans hE h hx
    obtain ⟨m, hm, -⟩ | ⟨-, e, s', hc, he⟩ := hcl
    · rw [hnp] at hm; cases hm
    rw [he]
    generalize foldH (expireReq x) s (pendingOf s c x) = t at *
    have hdue' : (t.s.height, c) ∈ t.s.expQ := by rw [hf]; exact hdue
    exact ⟨rfl, hc.inv i1 hdue' i3, trans (i4 hdue) (hC i1 hdue' i3 hc)⟩

end walk

theorem expirePending_frame {s : State} {c : CtxId} {x : Ctx} (h : Inv s) (hx : get s.ctxs c = some x) :
    EFrame s (foldH (expireReq x) s (pendingOf s c x)).s :=
  (expirePending_walk (R := fun _ _ _ => True) (fun _ => trivial) (fun _ _ => trivial) (fun _ _ _ _ _ => trivial) h hx).2.2.1

theorem expireBatch_spec {s : State} (h : Inv s) (c : CtxId) :
    (expireBatch s c).panic = none ∧ Inv (expireBatch s c).s :=
  have := expireBatch_walk (R := fun _ _ _ => True) (fun _ => trivial) (fun _ _ => trivial) (fun _ _ _ _ _ => trivial)
    (fun _ _ _ _ => trivial) h c
  ⟨this.1, this.2.1⟩

theorem expireBatch_nopanic {s : State} (h : Inv s) (c : CtxId) : (expireBatch s c).panic = none :=
  (expireBatch_spec h c).1

theorem expireBatch_inv (s : State) (c : CtxId) (h : Inv s) : Inv (expireBatch s c).s :=
  (expireBatch_spec h c).2

theorem newBatch_nopanic (s : State) (c : CtxId) : (newBatch s c).panic = none := by
  rcases newBatch_cases s c with ⟨-, he⟩ | ⟨-, hp, -⟩
  · rw [he]; rfl
  · exact hp

theorem newBatch_inv (s : State) (c : CtxId) (h : Inv s) : Inv (newBatch s c).s :=
  newBatch_of (R := fun _ s' => Inv s') s c h fun hdue ha => ha.inv h hdue

theorem endBlock_nopanic {s : State} (h : Inv s) (dt : Int) : (endBlock s dt).panic = none := by
  have h1 := foldH_nopanic_of expireBatch Inv (fun s a hs => expireBatch_spec hs a) (queuedAt s.expQ s.height) s h
  have h2 := fun l => foldH_nopanic_of newBatch Inv (fun s a hs => ⟨newBatch_nopanic s a, newBatch_inv s a hs⟩) l _ h1.2
  unfold endBlock
  simp only [h1.1, (h2 _).1]

theorem step_endblock_ok {s : State} (h : Inv s) (dt : Int) :
    step s (.endblock dt) = ((endBlock s dt).s, .ok, (endBlock s dt).effs) := by
  show (match (endBlock s dt).panic with
    | some m => (s, Res.panic m, (endBlock s dt).effs)
    | none => ((endBlock s dt).s, Res.ok, (endBlock s dt).effs)) = _
  rw [endBlock_nopanic h dt]

end SM
