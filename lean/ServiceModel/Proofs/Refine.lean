import ServiceModel.Proofs.Atom
/-!
# The slash and the handlers of the end of a block do what `Slash`, `Expire`, `Close` and `New` say

The message handlers are in `RefineBind.lean`, `RefineCtx.lean`, `RefineRespond.lean`. The lifting theorems
(`foldH_lift`; at the end `expireBatch_lift`, `endBlock_lift`) carry a relation that holds of every piece of work to the end of a
block that does not panic.
-/
namespace SM
open Map

theorem slashedB_avail {b : Binding} {amt md : Nat} {t : Int} (h : b.avail = true) :
    slashedB b amt md t =
      if b.deposit - amt < md then { b with deposit := b.deposit - amt, avail := false, disabledAt := t }
      else { b with deposit := b.deposit - amt } := by
  unfold slashedB; simp only [h, true_and]

theorem slashedB_unavail {b : Binding} {amt md : Nat} {t : Int} (h : ¬ b.avail = true) :
    slashedB b amt md t = { b with deposit := b.deposit - amt } :=
  if_neg fun h' => h h'.1

theorem slashedB_spec (b : Binding) (amt md : Nat) (t : Int) :
    (slashedB b amt md t).owner = b.owner ∧ (slashedB b amt md t).text = b.text ∧ (slashedB b amt md t).qos = b.qos ∧
      (slashedB b amt md t).deposit = b.deposit - amt ∧
      ((slashedB b amt md t).avail = true → b.avail = true ∧ md ≤ b.deposit - amt) := by
  unfold slashedB
  split
  · exact ⟨rfl, rfl, rfl, rfl, nofun⟩
  · rename_i hn
    exact ⟨rfl, rfl, rfl, rfl, fun hav => ⟨hav, Nat.not_lt.mp fun hlt => hn ⟨hav, hlt⟩⟩⟩

theorem Slash.of_done {s s1 : State} {r : ReqId} {svc : SvcName} {p : Addr} {e : List Effect}
    (h : slash s r svc p = .done s1 e) : Slash s r svc p e s1 := by
  unfold slash at h
  split at h; · cases h; exact .unbound ‹_›
  dsimp only at h
  split at h; · cases h
  split at h; · cases h
  rename_i b hb hle _ bank' hburn
  split at h
  · split at h; · cases h
    cases h
    rename_i hav _ md hmd
    have := Slash.burnt (r := r) hb (Nat.not_lt.mp hle) hburn fun _ => hmd
    rwa [slashedB_avail hav] at this
  · cases h
    rename_i hav
    have := Slash.burnt (r := r) (md := 0) hb (Nat.not_lt.mp hle) hburn fun h => absurd h hav
    rwa [slashedB_unavail hav] at this

section slash
variable {s s1 : State} {r : ReqId} {svc : SvcName} {p : Addr} {e : List Effect} (h : Slash s r svc p e s1)
include h

theorem Slash.frame : s1 = { s with bank := s1.bank, bindings := s1.bindings } := by
  cases h <;> rfl

theorem Slash.keys : ∀ k, (get s.bindings k).isSome → (get s1.bindings k).isSome := by
  cases h with
  | burnt => exact fun _ hk => Map.isSome_set _ _ _ _ hk
  | _ => exact fun _ hk => hk

theorem Slash.escrow (hst : InvStatic s) : balOf s1.bank.bal s.cfg.escrow = balOf s.bank.bal s.cfg.escrow := by
  cases h with
  | @burnt _ bank' _ _ _ hburn =>
    rw [bankBurn_bal hburn, if_neg hst.ed]
  | _ => rfl

theorem Slash.effects : e = [] ∨ ∃ n, e = [.slash r p n] := by
  cases h with
  | refused => exact .inl rfl
  | _ => exact .inr ⟨_, rfl⟩

end slash

/-- `expireReq` panics only when the minimum deposit of the slashed binding overflows, and then nothing has changed;
    every other run is an `Expire` -/
theorem expireReq_atom (x : Ctx) (s : State) (r : ReqId) :
    (∃ q, get s.reqs r = some q ∧ x.super = false ∧ slash s r x.svc q.prov = .overflow) ∧
      expireReq x s r = ⟨s, [], some "Int overflow"⟩ ∨
    ((expireReq x s r).panic = none ∧ Expire s x r (expireReq x s r).effs (expireReq x s r).s) := by
  unfold expireReq
  split
  · exact .inr ⟨rfl, .lost ‹_›⟩
  rename_i q hq
  split
  · exact .inr ⟨rfl, .super hq ‹_›⟩
  rename_i hsup
  have hsup : x.super = false := by simpa using hsup
  -- the refund, from the state the slash left (`s` itself when the bank refused the slash)
  have key : ∀ bank1 bs e1 s1, s1 = { s with bank := bank1, bindings := bs } →
      Slash s r x.svc q.prov e1 s1 →
      (refundExpired s1 e1 x q r).panic = none ∧
        Expire s x r (refundExpired s1 e1 x q r).effs (refundExpired s1 e1 x q r).s := by
    intro bank1 bs e1 s1 hf hs
    unfold refundExpired
    split
    · refine ⟨rfl, ?_⟩
      have := Expire.paid hq hsup hs (by subst hf; assumption)
      subst hf; exact this
    · refine ⟨rfl, ?_⟩
      have := Expire.unpaid hq hsup hs (by subst hf; assumption)
      subst hf; exact this
  split
  · exact .inl ⟨⟨q, hq, hsup, ‹_›⟩, rfl⟩
  · exact .inr (key s.bank s.bindings [] s rfl (.refused ‹_›))
  · exact .inr (key _ _ _ _ (Slash.of_done ‹_›).frame (.of_done ‹_›))

theorem Expire.of_nopanic {x : Ctx} {s : State} {r : ReqId} (h : (expireReq x s r).panic = none) :
    Expire s x r (expireReq x s r).effs (expireReq x s r).s := by
  rcases expireReq_atom x s r with ⟨-, hp⟩ | ⟨-, ha⟩
  · rw [hp] at h; cases h
  · exact ha

theorem Expire.frame {s s' : State} {x : Ctx} {r : ReqId} {e : List Effect} (h : Expire s x r e s') :
    s' = { s with bank := s'.bank, bindings := s'.bindings, activeB := s'.activeB, activeI := FSet.rem s.activeI r } := by
  cases h <;> rfl

theorem foldH_cons {α : Type} (h : State → α → HRes) (s : State) (a : α) (as : List α) :
    foldH h s (a :: as) =
      match (h s a).panic with
      | some _ => h s a
      | none => ⟨(foldH h (h s a).s as).s, (h s a).effs ++ (foldH h (h s a).s as).effs, (foldH h (h s a).s as).panic⟩ := rfl

theorem foldH_cons_nopanic {α : Type} (h : State → α → HRes) (s : State) (a : α) (as : List α)
    (hnp : (foldH h s (a :: as)).panic = none) :
    (h s a).panic = none ∧ (foldH h (h s a).s as).panic = none ∧
      foldH h s (a :: as) = ⟨(foldH h (h s a).s as).s, (h s a).effs ++ (foldH h (h s a).s as).effs, none⟩ := by
  rw [foldH_cons] at hnp ⊢
  cases hp : (h s a).panic with
  | some m => rw [hp] at hnp; dsimp only at hnp; rw [hp] at hnp; cases hnp
  | none => rw [hp] at hnp; dsimp only at hnp ⊢; rw [hnp]; exact ⟨rfl, rfl, rfl⟩

/-- no hypothesis about panics is needed: a fold that panics stops with the effects emitted so far -/
theorem foldH_effects {α : Type} (hd : State → α → HRes) (P : Effect → Prop) (hk : ∀ s a, ∀ e ∈ (hd s a).effs, P e) :
    ∀ (l : List α) (s : State), ∀ e ∈ (foldH hd s l).effs, P e := by
  intro l
  induction l with
  | nil => intro s; nofun
  | cons a t ih =>
    intro s
    rw [foldH_cons]
    split
    · exact hk s a
    · exact List.forall_mem_append.mpr ⟨hk s a, ih _⟩

/-- the requests `expireBatch` settles for the stored record `x`, in the order it takes them: the pending ones of the
    batch, unless its responses had completed it -/
def pendingOf (s : State) (c : CtxId) (x : Ctx) : List ReqId :=
  if x.bstate ≠ .completed then sortReqIds (s.activeI.filter (fun r => r.ctx = c ∧ r.batch = x.batch)) else []

theorem mem_pendingOf {s : State} {c : CtxId} {x : Ctx} {r : ReqId} (h : r ∈ pendingOf s c x) :
    r ∈ s.activeI ∧ r.ctx = c ∧ r.batch = x.batch ∧ x.bstate ≠ .completed := by
  unfold pendingOf at h
  split at h
  · have := (mem_sortReqIds _ _).mp h
    simp only [List.mem_filter, decide_eq_true_eq] at this
    exact ⟨this.1, this.2.1, this.2.2, ‹_›⟩
  · cases h

section fold
variable {R : State → List Effect → State → Prop} (refl : ∀ s, R s [] s)
  (trans : ∀ {a b c e1 e2}, R a e1 b → R b e2 c → R a (e1 ++ e2) c)
include refl trans

/-- `I` carries what the handler needs to know about the state it starts in -/
theorem foldH_lift {α : Type} {h : State → α → HRes} {I : State → Prop} {l : List α}
    (hR : ∀ s a, a ∈ l → I s → (h s a).panic = none → R s (h s a).effs (h s a).s ∧ I (h s a).s)
    {s : State} (hs : I s) (hnp : (foldH h s l).panic = none) :
    R s (foldH h s l).effs (foldH h s l).s ∧ I (foldH h s l).s := by
  induction l generalizing s with
  | nil => exact ⟨refl s, hs⟩
  | cons a t ih =>
    obtain ⟨h1, h2, h3⟩ := foldH_cons_nopanic _ _ _ _ hnp
    rw [h3]
    obtain ⟨r1, i1⟩ := hR s a (List.mem_cons_self ..) hs h1
    obtain ⟨r2, i2⟩ := ih (fun s b hb => hR s b (List.mem_cons_of_mem _ hb)) i1 h2
    exact ⟨trans r1 r2, i2⟩

end fold

theorem foldH_nopanic_of {α : Type} (hd : State → α → HRes) (P : State → Prop)
    (hstep : ∀ s a, P s → (hd s a).panic = none ∧ P (hd s a).s) :
    ∀ (l : List α) (s : State), P s → (foldH hd s l).panic = none ∧ P (foldH hd s l).s := by
  intro l
  induction l with
  | nil => intro s hs; exact ⟨rfl, hs⟩
  | cons a t ih =>
    intro s hs
    obtain ⟨h1, h2⟩ := hstep s a hs
    rw [foldH_cons]; simp only [h1]
    exact ih _ h2

theorem expireFold_ctx {s : State} {c : CtxId} {x : Ctx} {ids : List ReqId} (hx : get s.ctxs c = some x)
    (hnp : (foldH (expireReq x) s ids).panic = none) : get (foldH (expireReq x) s ids).s.ctxs c = some x := by
  refine (foldH_lift (R := fun _ _ _ => True) (I := fun s => get s.ctxs c = some x) (fun _ => trivial)
    (fun _ _ => trivial) (fun s r _ hs h1 => ⟨trivial, ?_⟩) hx hnp).2
  rw [(Expire.of_nopanic h1).frame]; exact hs

theorem completeBatch_fst (s : State) (c : CtxId) (x : Ctx) :
    (completeBatch s c x).1 = { x with bstate := .completed } := rfl

theorem expireTail_close {s : State} {c : CtxId} {x : Ctx} (hx : get s.ctxs c = some x) :
    Close s c (closeEffs s c x ++ (expireTail s c { x with bstate := .completed }).2)
      (expireTail s c { x with bstate := .completed }).1 := by
  unfold expireTail
  simp only [setCtx, delExpQ, delCtx, addNewQ, cleanBatch, del_set]
  split
  · exact .remove hx (.inl ‹_›)
  · split
    · rw [List.append_nil]; exact .again hx ‹_› ‹_›
    · exact .remove hx (.inr ⟨‹_›, ‹_›⟩)
  · rw [List.append_nil]; exact .park hx ‹_›

theorem expirePending_eq (s : State) (c : CtxId) (x : Ctx) :
    expirePending s c x =
      (⟨(foldH (expireReq x) s (pendingOf s c x)).s,
        (foldH (expireReq x) s (pendingOf s c x)).effs ++ closeEffs (foldH (expireReq x) s (pendingOf s c x)).s c x,
        (foldH (expireReq x) s (pendingOf s c x)).panic⟩,
       { x with bstate := .completed }) := by
  unfold expirePending pendingOf closeEffs
  split
  · rfl
  · rename_i hb
    have hb : x.bstate = .completed := by simpa using hb
    cases x; cases hb; rfl

theorem expireBatch_cases (s : State) (c : CtxId) :
    ((s.height, c) ∉ s.expQ ∧ expireBatch s c = HRes.pure s) ∨
    ((s.height, c) ∈ s.expQ ∧ get s.ctxs c = none ∧ expireBatch s c = HRes.pure (delExpQ s c s.height)) ∨
    ∃ x f, (s.height, c) ∈ s.expQ ∧ get s.ctxs c = some x ∧ f = foldH (expireReq x) s (pendingOf s c x) ∧
      ((∃ m, f.panic = some m ∧ expireBatch s c = ⟨f.s, f.effs ++ closeEffs f.s c x, some m⟩) ∨
       f.panic = none ∧ ∃ e s', Close f.s c e s' ∧ expireBatch s c = ⟨s', f.effs ++ e, none⟩) := by
  unfold expireBatch
  split
  · exact .inl ⟨‹_›, rfl⟩
  rename_i hdue
  have hdue : (s.height, c) ∈ s.expQ := by simpa using hdue
  split
  · exact .inr (.inl ⟨hdue, ‹_›, rfl⟩)
  rename_i x hx
  refine .inr (.inr ⟨x, _, hdue, hx, rfl, ?_⟩)
  rw [expirePending_eq]
  cases hf : (foldH (expireReq x) s (pendingOf s c x)).panic with
  | some m => exact .inl ⟨m, rfl, rfl⟩
  | none => exact .inr ⟨rfl, _, _, expireTail_close (expireFold_ctx hx hf), by rw [List.append_assoc]⟩

theorem issueReqs_proj {α : Type} (f : State → α)
    (hf : ∀ (s : State) r q svc p e rid, f (addActive { s with reqs := Map.set s.reqs r q } svc p e rid) = f s)
    (s : State) (c : CtxId) (x : Ctx) (el : List (Addr × Nat)) (i : Nat) : f (issueReqs s c x el i) = f s := by
  induction el generalizing s i with
  | nil => rfl
  | cons hd t ih =>
    simp only [issueReqs]
    rw [ih, hf]

theorem issueReqs_frame (s : State) (c : CtxId) (x : Ctx) (el : List (Addr × Nat)) (i : Nat) :
    issueReqs s c x el i = { s with reqs := (issueReqs s c x el i).reqs, activeB := (issueReqs s c x el i).activeB,
                                    activeI := (issueReqs s c x el i).activeI } :=
  issueReqs_proj (fun t => { t with reqs := (issueReqs s c x el i).reqs, activeB := (issueReqs s c x el i).activeB,
                                    activeI := (issueReqs s c x el i).activeI }) (fun _ _ _ _ _ _ _ => rfl) s c x el i

theorem issueBatch_fst (s : State) (bank' : Bank) (c : CtxId) (x : Ctx) (el : List (Addr × Nat)) (ep : List Effect) :
    (issueBatch s bank' c x el ep).1 =
      { s with bank := bank', reqs := (issueReqs { s with bank := bank' } c x el 0).reqs,
               activeB := (issueReqs { s with bank := bank' } c x el 0).activeB,
               activeI := (issueReqs { s with bank := bank' } c x el 0).activeI,
               ctxs := set s.ctxs c (nextBatch x el.length),
               expQ := FSet.ins s.expQ (s.height + x.timeout, c), expH := set s.expH c (s.height + x.timeout) } := by
  unfold issueBatch
  rw [issueReqs_frame]
  rfl

theorem issueReqs_pending {s : State} {c : CtxId} {x : Ctx} {el : List (Addr × Nat)} {i : Nat} {r : ReqId}
    (h : r ∈ (issueReqs s c x el i).activeI) : r ∈ s.activeI ∨ r.ctx = c ∧ r.batch = x.batch + 1 := by
  induction el generalizing s i with
  | nil => exact .inl h
  | cons hd t ih =>
    simp only [issueReqs] at h
    rcases ih h with h | h
    · rcases (FSet.mem_ins _ _ _).mp h with rfl | h
      · exact .inr ⟨rfl, rfl⟩
      · exact .inl h
    · exact .inr h

theorem newBatch_cases (s : State) (c : CtxId) :
    ((s.height, c) ∉ s.newQ ∧ newBatch s c = HRes.pure s) ∨
    ((s.height, c) ∈ s.newQ ∧ (newBatch s c).panic = none ∧ New s c (newBatch s c).effs (newBatch s c).s) := by
  unfold newBatch
  split
  · exact .inl ⟨‹_›, rfl⟩
  rename_i hdue
  refine .inr ⟨by simpa using hdue, ?_⟩
  split
  · exact ⟨rfl, .lost ‹_›⟩
  rename_i x hx
  split
  · exact ⟨rfl, .finish hx ‹_›⟩
  rename_i hnd
  split
  · exact ⟨rfl, .drop hx ‹_›⟩
  rename_i hrun
  have hrun : x.state = .running := by simpa using hrun
  refine ⟨rfl, ?_⟩
  unfold startOrSkip
  split
  · rename_i hel
    split
    · rw [issueBatch_fst]
      exact .issue hx hrun hnd hel (.inl ⟨‹_›, rfl, rfl⟩)
    · rename_i hsup
      have hsup : x.super = false := by simpa using hsup
      split
      · rw [issueBatch_fst]
        exact .issue hx hrun hnd hel (.inr ⟨hsup, ‹_›, rfl⟩)
      · exact .unfunded hx hrun hnd hel hsup ‹_›
  · exact .skip hx hrun hnd ‹_›

/-- what holds of a context that is not due (nothing happens) and of every `New` holds of `newBatch` -/
theorem newBatch_of {R : List Effect → State → Prop} (s : State) (c : CtxId) (refl : R [] s)
    (hN : ∀ {e s'}, (s.height, c) ∈ s.newQ → New s c e s' → R e s') : R (newBatch s c).effs (newBatch s c).s := by
  rcases newBatch_cases s c with ⟨_, h⟩ | ⟨hdue, _, h⟩
  · rw [h]; exact refl
  · exact hN hdue h

theorem endBlock_nopanic_eq {s : State} {dt : Int} (hnp : (endBlock s dt).panic = none) :
    ∃ r1 r2, r1 = foldH expireBatch s (queuedAt s.expQ s.height) ∧
      r2 = foldH newBatch r1.s (queuedAt r1.s.newQ r1.s.height) ∧ r1.panic = none ∧ r2.panic = none ∧
      endBlock s dt = ⟨{ r2.s with height := r2.s.height + 1, time := r2.s.time + dt }, r1.effs ++ r2.effs, none⟩ := by
  unfold endBlock at hnp ⊢
  dsimp only at hnp ⊢
  split at hnp
  · rename_i h1; rw [h1] at hnp; cases hnp
  rename_i h1
  split at hnp
  · rename_i h2; rw [h2] at hnp; cases hnp
  rename_i h2
  exact ⟨_, _, rfl, rfl, h1, h2, rfl⟩

section lift
variable {R : State → List Effect → State → Prop} (refl : ∀ s, R s [] s)
  (trans : ∀ {a b c e1 e2}, R a e1 b → R b e2 c → R a (e1 ++ e2) c)
  (hE : ∀ {s x r e s'}, get s.ctxs r.ctx = some x → (s.height, r.ctx) ∈ s.expQ → Expire s x r e s' → R s e s')
  (hC : ∀ {s c e s'}, (s.height, c) ∈ s.expQ → Close s c e s' → R s e s')
  (hN : ∀ {s c e s'}, (s.height, c) ∈ s.newQ → New s c e s' → R s e s')
  (hT : ∀ s dt, R s [] { s with height := s.height + 1, time := s.time + dt })
include refl trans hE hC

theorem expireBatch_lift {s0 : State} {c : CtxId} (hnp : (expireBatch s0 c).panic = none) :
    R s0 (expireBatch s0 c).effs (expireBatch s0 c).s := by
  rcases expireBatch_cases s0 c with ⟨_, h⟩ | ⟨hdue, hx, h⟩ | ⟨x, _, hdue, hx, rfl, ⟨_, _, h⟩ | ⟨hf, e, s', hc, h⟩⟩ <;> rw [h]
  · exact refl s0
  · exact hC hdue (.lost hx)
  · rw [h] at hnp; cases hnp
  · have key : ∀ s r, r ∈ pendingOf s0 c x → get s.ctxs c = some x ∧ (s.height, c) ∈ s.expQ →
        (expireReq x s r).panic = none → R s (expireReq x s r).effs (expireReq x s r).s ∧
          (get (expireReq x s r).s.ctxs c = some x ∧ ((expireReq x s r).s.height, c) ∈ (expireReq x s r).s.expQ) := by
      intro s r hr hs h1
      have ha := Expire.of_nopanic h1
      have hc := (mem_pendingOf hr).2.1
      exact ⟨hE (by rw [hc]; exact hs.1) (by rw [hc]; exact hs.2) ha, by rw [ha.frame]; exact hs⟩
    obtain ⟨hr, -, hdue'⟩ := foldH_lift refl trans key ⟨hx, hdue⟩ hf
    exact trans hr (hC hdue' hc)

include hN hT

/-- what holds of every expired request, every closed batch, every due context and the tick of the clock holds of
    the end of a block -/
theorem endBlock_lift {s : State} {dt : Int} (hnp : (endBlock s dt).panic = none) :
    R s (endBlock s dt).effs (endBlock s dt).s := by
  obtain ⟨_, _, rfl, rfl, h1, h2, h⟩ := endBlock_nopanic_eq hnp
  rw [h, ← List.append_nil (_ ++ _), List.append_assoc]
  refine trans (foldH_lift (I := fun _ => True) refl trans
      (fun s c _ _ hp => ⟨expireBatch_lift refl trans hE hC hp, trivial⟩) trivial h1).1
    (trans (foldH_lift (I := fun _ => True) refl trans
      (fun s c _ _ _ => ⟨newBatch_of s c (refl s) hN, trivial⟩) trivial h2).1 (hT _ dt))

end lift

end SM
