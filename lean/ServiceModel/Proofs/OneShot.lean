import ServiceModel.Proofs.LiftInv
import ServiceModel.Proofs.Reachable
/-!
# C10: a one-shot context never gets more than one batch

Invariant `KInv`: for a non-repeated context the batch counter is at most 1, and it is 0 as long as the context
is waiting for a batch (it has a new-batch pointer) or is paused. A batch is only issued or skipped for a context
that has a new-batch pointer, the pointer is removed by that very handler, nothing re-queues a running one-shot
context (start needs `paused`; a consumer cannot pause it; the pause for lack of funds happens instead of the
batch), and its expiry removes it.
-/
namespace SM
open Map

def KOK (x : Ctx) (nh : Option Int) : Prop :=
  x.rep = false → x.batch ≤ 1 ∧ ((nh.isSome ∨ x.state = .paused) → x.batch = 0)

def KInv (s : State) : Prop := ∀ c x, get s.ctxs c = some x → KOK x (get s.newH c)

theorem KOK.of_rep {x : Ctx} {nh : Option Int} (h : x.rep = true) : KOK x nh := by
  intro hr; rw [h] at hr; cases hr

theorem KOK.of_zero {x y : Ctx} {nh : Option Int} (h : x.rep = false → x.batch = 0) (h1 : y.rep = x.rep)
    (h2 : y.batch = x.batch) : KOK y nh := by
  intro hr; rw [h2, h (h1 ▸ hr)]; exact ⟨by omega, fun _ => rfl⟩

theorem KOK.congr {x y : Ctx} {nh nh' : Option Int} (h : KOK x nh) (h1 : y.rep = x.rep) (h2 : y.batch = x.batch)
    (h3 : y.state = x.state) (h4 : nh' = nh) : KOK y nh' := by
  unfold KOK at *
  rw [h1, h2, h3, h4]; exact h

theorem kinv_local {s s' : State} (c : CtxId) (hk : KInv s)
    (hother : ∀ k, k ≠ c → get s'.ctxs k = get s.ctxs k ∧ get s'.newH k = get s.newH k)
    (hc : ∀ y, get s'.ctxs c = some y → KOK y (get s'.newH c)) : KInv s' := by
  intro k y hy
  by_cases h : k = c
  · subst h; exact hc y hy
  · obtain ⟨h1, h2⟩ := hother k h
    rw [h1] at hy; rw [h2]; exact hk k y hy

theorem kinv_of_eq {s s' : State} (hk : KInv s) (h1 : s'.ctxs = s.ctxs) (h2 : s'.newH = s.newH) : KInv s' := by
  intro c y hy; rw [h1] at hy; rw [h2]; exact hk c y hy

theorem kinv_set {s s' : State} {c : CtxId} {y : Ctx} (hk : KInv s) (hc : s'.ctxs = set s.ctxs c y)
    (hn : ∀ k, k ≠ c → get s'.newH k = get s.newH k) (hy : KOK y (get s'.newH c)) : KInv s' :=
  kinv_local c hk (fun k hk' => ⟨by rw [hc, get_set_other _ _ _ _ hk'.symm], hn k hk'⟩)
    (fun z hz => by rw [hc, get_set_same] at hz; cases hz; exact hy)

theorem Msg.kinv {s s' : State} {op : Op} {e : List Effect} (h : Msg s op e s') (hk : KInv s) : KInv s' := by
  cases h with
  | call | modcreate =>
    refine kinv_set hk rfl (fun _ hk' => ?_) (KOK.of_zero (fun _ => rfl) rfl rfl)
    dsimp only [created]
    exact Map.get_ite_set_other _ _ _ hk'.symm
  | pause _ hrep | modpause _ hrep | kill _ hrep | modkill _ hrep =>
    exact kinv_set hk rfl (fun _ _ => rfl) (KOK.of_rep hrep)
  | start hx hp | modstart hx hp =>
    -- a paused one-shot context has counter 0
    exact kinv_set hk rfl (fun _ hk' => Map.get_ite_set_other _ _ _ hk'.symm)
      (KOK.of_zero (fun hr => (hk _ _ hx hr).2 (.inr hp)) rfl rfl)
  | updatectx hx hu | modupdate hx hu =>
    obtain ⟨t, rfl⟩ := updThr_eq hu.thr
    exact kinv_set hk rfl (fun _ _ => rfl) ((hk _ _ hx).congr rfl rfl rfl rfl)
  | respondBad _ hx | respondGood _ hx =>
    refine kinv_set hk rfl (fun _ _ => rfl) ?_
    unfold answered
    split <;> exact (hk _ _ hx).congr rfl rfl rfl rfl
  | _ => exact kinv_of_eq hk rfl rfl

theorem Expire.kinv {s s' : State} {x : Ctx} {r : ReqId} {e : List Effect} (h : Expire s x r e s') (hk : KInv s) :
    KInv s' :=
  kinv_of_eq hk (congrArg State.ctxs h.frame :) (congrArg State.newH h.frame :)

theorem Close.kinv {s s' : State} {c : CtxId} {e : List Effect} (h : Close s c e s') (hk : KInv s) : KInv s' := by
  cases h with
  | lost => exact kinv_of_eq hk rfl rfl
  | remove =>
    exact kinv_local c hk (fun _ hk' => ⟨get_del_other _ _ _ hk'.symm, rfl⟩) forall_del_same
  | again _ _ hm => exact kinv_set hk rfl (fun _ hk' => get_set_other _ _ _ _ hk'.symm) (KOK.of_rep hm.1)
  | park hx => exact kinv_set hk rfl (fun _ _ => rfl) ((hk _ _ hx).congr rfl rfl rfl rfl)

theorem New.kinv {s s' : State} {c : CtxId} {e : List Effect} (h : New s c e s') (hdue : get s.newH c = some s.height)
    (hk : KInv s) : KInv s' := by
  have hzero : ∀ x, get s.ctxs c = some x → x.rep = false → x.batch = 0 :=
    fun x hx hr => (hk c x hx hr).2 (.inl (by rw [hdue]; rfl))
  have hptr : ∀ k, k ≠ c → get (del s.newH c) k = get s.newH k := fun k hk' => get_del_other _ _ _ hk'.symm
  cases h with
  | lost hx => exact kinv_local c hk (fun k hk' => ⟨rfl, hptr k hk'⟩) (fun _ hy => nomatch hx.symm.trans hy)
  | finish =>
    exact kinv_local c hk (fun k hk' => ⟨get_del_other _ _ _ hk'.symm, hptr k hk'⟩)
      forall_del_same
  | drop hx =>
    refine kinv_local c hk (fun k hk' => ⟨rfl, hptr k hk'⟩) (fun y hy => ?_)
    cases hx.symm.trans hy
    exact KOK.of_zero (hzero _ hx) rfl rfl
  | issue hx hrun | skip hx hrun =>
    refine kinv_set hk rfl hptr (fun hr => ⟨Nat.succ_le_succ (Nat.le_of_eq (hzero _ hx hr)), fun hh => ?_⟩)
    rcases hh with hh | hh
    · rw [get_del_same] at hh; cases hh
    · cases hrun.symm.trans hh
  | unfunded hx =>
    exact kinv_set hk rfl hptr (KOK.of_zero (hzero _ hx) rfl rfl)

theorem step_kinv {s : State} (h : Inv s) (op : Op) (hw : WF s op) (hk : KInv s) : KInv (step s op).1 :=
  step_liftI (R := fun s _ s' => KInv s → KInv s') (fun _ hk => hk) (fun h1 h2 hk => h2 (h1 hk)) op
    (fun _ _ _ h => h.kinv) (fun _ _ _ _ h => h.kinv) (fun _ _ _ h => h.kinv)
    (fun hi hdue h => h.kinv ((hi.x.newMirror _ _).mp hdue)) (fun _ _ _ hk => kinv_of_eq hk rfl rfl) h hw hk

/-- C10: in every reachable state a one-shot context has had at most one batch (and none while it is still
    waiting for its batch or is paused for lack of funds) -/
theorem kinv_reachable {cfg : Config} {p : Params} {h0 t0 : Int} (hc : CfgOK cfg p) {s : State}
    (hr : Reachable cfg p h0 t0 s) : KInv s := by
  induction hr with
  | init => intro c x hx; cases hx
  | @step s op hr' hw ih => exact step_kinv (reachable_inv hc hr') op hw ih

end SM
