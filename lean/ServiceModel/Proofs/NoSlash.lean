import ServiceModel.Proofs.Lift
/-!
# Slashing happens only in `respond` and at the end of a block; an expiry emits nothing but slashes and transfers
-/
namespace SM

def Effect.isSlash : Effect → Bool
  | .slash .. => true
  | _ => false

def noSlash (l : List Effect) : Prop := ∀ e ∈ l, e.isSlash = false

theorem noSlash_nil : noSlash [] := nofun

theorem noSlash_transfer (a b : Addr) (n : Nat) : noSlash [.transfer a b n] := List.forall_mem_singleton.mpr rfl

theorem setwd_noSlash (s : State) (o a : Addr) : noSlash (setwd s o a).2.2 := noSlash_nil

theorem Msg.noSlash {s s' : State} {op : Op} {e : List Effect} (h : Msg s op e s')
    (hnr : ∀ r p c o, op ≠ .respond r p c o) : noSlash e := by
  cases h with
  | respondBad | respondGood => exact absurd rfl (hnr _ _ _ _)
  | bind | refund => exact noSlash_transfer _ _ _
  | update | enable | withdraw =>
    split
    · exact noSlash_nil
    · exact noSlash_transfer _ _ _
  | _ => exact noSlash_nil

theorem step_noSlash (s : State) (op : Op) (hne : op.isEndblock = false) (hnr : ∀ r p c o, op ≠ .respond r p c o) :
    noSlash (step s op).2.2 := by
  rcases step_cases s op with ⟨_, _, he⟩ | ⟨_, _, _, _, hm, he⟩ | ⟨dt, rfl, _⟩
  · rw [he]; exact noSlash_nil
  · rw [he]; exact hm.noSlash hnr
  · cases hne

/-- effects that only move or destroy coins -/
def Effect.isMoney : Effect → Bool
  | .transfer .. => true
  | .xferFail .. => true
  | .slash .. => true
  | _ => false

theorem slash_money {s s1 : State} {r : ReqId} {svc : SvcName} {p : Addr} {e1 : List Effect}
    (hs : Slash s r svc p e1 s1) : ∀ a ∈ e1, a.isMoney = true := by
  cases hs with
  | refused => nofun
  | _ => exact List.forall_mem_singleton.mpr rfl

/-- a payment, which is left out when the amount is zero -/
theorem pay_money (a b : Addr) (n : Nat) : ∀ e ∈ (if n = 0 then [] else [Effect.transfer a b n]), e.isMoney = true := by
  split
  · nofun
  · exact List.forall_mem_singleton.mpr rfl

theorem Expire.money {s s' : State} {x : Ctx} {r : ReqId} {e : List Effect} (h : Expire s x r e s') :
    ∀ a ∈ e, a.isMoney = true := by
  cases h with
  | lost | super => nofun
  | paid _ _ hs => exact List.forall_mem_append.mpr ⟨slash_money hs, pay_money _ _ _⟩
  | unpaid _ _ hs => exact List.forall_mem_append.mpr ⟨slash_money hs, List.forall_mem_singleton.mpr rfl⟩

theorem expireReq_effects (x : Ctx) (s : State) (r : ReqId) : ∀ e ∈ (expireReq x s r).effs, e.isMoney = true := by
  rcases expireReq_atom x s r with ⟨-, h⟩ | ⟨_, h⟩
  · rw [h]; nofun
  · exact h.money

end SM
