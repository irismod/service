import ServiceModel.Proofs.Eventually
import ServiceModel.Proofs.NoSlash
/-!
# C04: every slash names a request that was pending and is no longer — hence once per failed request

`step_slash_pending`: a slash effect of a step carries the id of a request that was pending before the step and is
not pending after it. With `Spent` (C02): a request is slashed at most once in every history.
-/
namespace SM
open Map

def SlashFor (P : ReqId → Prop) (e : List Effect) : Prop := ∀ eff ∈ e, ∀ r p n, eff = .slash r p n → P r

section
variable {P Q : ReqId → Prop} {e e1 e2 : List Effect} {x : Effect}

theorem SlashFor.nil : SlashFor P [] := fun _ h => nomatch h

theorem SlashFor.cons (hx : x.isSlash = false) (h : SlashFor P e) : SlashFor P (x :: e) := by
  intro eff he r p n heq
  rcases List.mem_cons.mp he with rfl | he
  · rw [heq] at hx; cases hx
  · exact h eff he r p n heq

theorem SlashFor.append (h1 : SlashFor P e1) (h2 : SlashFor P e2) : SlashFor P (e1 ++ e2) :=
  fun eff he => (List.mem_append.mp he).elim (h1 eff) (h2 eff)

theorem SlashFor.ite {c : Prop} [Decidable c] (h1 : SlashFor P e1) (h2 : SlashFor P e2) :
    SlashFor P (if c then e1 else e2) := by
  split <;> assumption

theorem SlashFor.mono (h : SlashFor P e) (hP : ∀ r, P r → Q r) : SlashFor Q e :=
  fun eff he r p n heq => hP r (h eff he r p n heq)

theorem noSlash.slashFor (h : noSlash e) : SlashFor P e := fun eff he r p n heq => by
  have := h eff he
  rw [heq] at this; cases this

end

theorem slash_slashFor {s s1 : State} {r : ReqId} {svc : SvcName} {p : Addr} {e : List Effect}
    (h : Slash s r svc p e s1) : SlashFor (· = r) e := by
  rcases h.effects with rfl | ⟨n, rfl⟩
  · exact .nil
  · intro eff he r' p' n' heq
    rw [List.mem_singleton.mp he] at heq
    cases heq; rfl

theorem completeBatch_slashFor {P : ReqId → Prop} (s : State) (c : CtxId) (x : Ctx) :
    SlashFor P (completeBatch s c x).2 :=
  .append (.ite (by split <;> exact .cons rfl .nil) .nil) (.cons rfl .nil)

theorem Msg.respond_slash {s s' : State} {r0 : ReqId} {pv : Addr} {code : Nat} {out : OutKind} {e : List Effect}
    (h : Msg s (.respond r0 pv code out) e s') : SlashFor (fun r => r ∈ s.activeI ∧ r ∉ s'.activeI) e := by
  cases h with
  | respondBad _ _ hact hs =>
    have own : ∀ r, r = r0 → r ∈ s.activeI ∧ r ∉ FSet.rem s.activeI r0 := fun r hr => by
      subst hr; exact ⟨hact, fun h => ((FSet.mem_rem _ _ _).mp h).2 rfl⟩
    exact (((slash_slashFor (.of_done hs)).mono own).append (.ite .nil (.cons rfl .nil))).append
      (.ite (completeBatch_slashFor _ _ _) .nil)
  | respondGood => exact (SlashFor.ite .nil (.cons rfl .nil)).append (.ite (completeBatch_slashFor _ _ _) .nil)

theorem Expire.slash_id {s s' : State} {x : Ctx} {r : ReqId} {e : List Effect} (h : Expire s x r e s') :
    SlashFor (· = r) e := by
  cases h with
  | lost | super => exact .nil
  | paid _ _ hs => exact (slash_slashFor hs).append (.ite .nil (.cons rfl .nil))
  | unpaid _ _ hs => exact (slash_slashFor hs).append (.cons rfl .nil)

theorem Close.slashFor {P : ReqId → Prop} {s s' : State} {c : CtxId} {e : List Effect} (h : Close s c e s') :
    SlashFor P e := by
  cases h with
  | lost => exact .nil
  | remove => exact .append (.ite (completeBatch_slashFor _ _ _) .nil) (.cons rfl .nil)
  | again | park => exact .ite (completeBatch_slashFor _ _ _) .nil

theorem New.slashFor {P : ReqId → Prop} {s s' : State} {c : CtxId} {e : List Effect} (h : New s c e s') :
    SlashFor P e := by
  cases h with
  | lost | drop => exact .nil
  | finish | skip => exact .cons rfl .nil
  | issue _ _ _ _ hpay =>
    refine .append (.append ?_ (.cons rfl .nil)) (.cons rfl .nil)
    rcases hpay with ⟨_, _, rfl⟩ | ⟨_, _, rfl⟩
    · exact .nil
    · exact .ite .nil (.cons rfl .nil)
  | unfunded => exact .append (.cons rfl (.cons (by split <;> rfl) .nil)) (.cons rfl .nil)

theorem newBatch_slashFor (P : ReqId → Prop) (s : State) (c : CtxId) : SlashFor P (newBatch s c).effs :=
  newBatch_of (R := fun e _ => SlashFor P e) s c .nil fun _ h => h.slashFor

/-- What the expiry phase does, as far as slashes go: it stays at its height, makes no request pending, moves no
    expiry pointer of a context with a pending request, and slashes only for requests that were pending with the
    expiry of their context due. (The new-batch phase does make requests pending, but slashes nobody.) -/
def ExpSlash (s : State) (e : List Effect) (s' : State) : Prop :=
  s'.height = s.height ∧ (∀ r, PtrKept r s s') ∧
  SlashFor (fun r => r ∈ s.activeI ∧ get s.expH r.ctx = some s.height) e

theorem ExpSlash.refl (s : State) : ExpSlash s [] s := ⟨rfl, fun r => .refl r s, .nil⟩

theorem ExpSlash.trans {a b c : State} {e1 e2 : List Effect} (h1 : ExpSlash a e1 b) (h2 : ExpSlash b e2 c) :
    ExpSlash a (e1 ++ e2) c :=
  ⟨h2.1.trans h1.1, fun r => (h1.2.1 r).trans (h2.2.1 r),
   h1.2.2.append (h2.2.2.mono fun r ⟨hr, hp⟩ => ⟨(h1.2.1 r hr).1, by rw [← (h1.2.1 r hr).2, hp, h1.1]⟩)⟩

theorem Expire.expSlash {s s' : State} {x : Ctx} {r : ReqId} {e : List Effect} (hi : Inv s) (hr : r ∈ s.activeI)
    (hdue : (s.height, r.ctx) ∈ s.expQ) (h : Expire s x r e s') : ExpSlash s e s' :=
  ⟨(congrArg State.height h.frame :), h.ptrKept,
   h.slash_id.mono fun _ hr' => by subst hr'; exact ⟨hr, (hi.x.expMirror _ _).mp hdue⟩⟩

theorem Close.expSlash {s s' : State} {c : CtxId} {e : List Effect} (hnone : ∀ r ∈ s.activeI, r.ctx ≠ c)
    (h : Close s c e s') : ExpSlash s e s' :=
  ⟨h.ptrs.1, h.ptrKept hnone, h.slashFor⟩

theorem expirePhase_slash {s : State} (h : Inv s) {l : List CtxId} (hnp : (foldH expireBatch s l).panic = none) :
    SlashFor (fun r => r ∈ s.activeI ∧ get s.expH r.ctx = some s.height) (foldH expireBatch s l).effs :=
  (foldH_lift (I := Inv) ExpSlash.refl ExpSlash.trans
    (fun s c _ hs _ =>
      ⟨expireBatch_liftI ExpSlash.refl ExpSlash.trans (fun hi _ hr hdue h => h.expSlash hi hr hdue)
        (fun _ _ hn h => h.expSlash hn) hs c, expireBatch_inv s c hs⟩) h hnp).1.2.2

/-- a request slashed by the expiry phase had the expiry of its context due, so it is gone when the block has ended -/
theorem endBlock_slash {s : State} (h : Inv s) (dt : Int) :
    SlashFor (fun r => r ∈ s.activeI ∧ r ∉ (endBlock s dt).s.activeI) (endBlock s dt).effs := by
  obtain ⟨_, _, rfl, rfl, h1, h2, hb⟩ := endBlock_nopanic_eq (endBlock_nopanic h dt)
  intro eff he
  rw [hb] at he
  rcases List.mem_append.mp he with he | he
  · refine (expirePhase_slash h h1).mono (fun r ⟨ha, hp⟩ => ⟨ha, ?_⟩) eff he
    obtain ⟨q, _, hq, _, _, hqe⟩ := h.x.pending ha
    exact expiry_block_clears s dt h r q hq (Option.some.inj (hqe.symm.trans hp))
  · exact foldH_effects newBatch _ (newBatch_slashFor _) _ _ eff he

/-- C04: every slash of a step is for a request that was pending before the step and is not pending after it -/
theorem step_slash_pending {s : State} (h : Inv s) (op : Op) :
    ∀ e ∈ (step s op).2.2, ∀ r p n, e = .slash r p n → r ∈ s.activeI ∧ r ∉ (step s op).1.activeI := by
  rcases step_cases s op with ⟨_, _, hs⟩ | ⟨hne, _, _, _, hm, hs⟩ | ⟨dt, rfl, ⟨_, hs⟩ | ⟨_, hp, _⟩⟩
  · rw [hs]; exact SlashFor.nil
  · by_cases hr : ∃ r0 p0 c0 o0, op = .respond r0 p0 c0 o0
    · obtain ⟨r0, p0, c0, o0, rfl⟩ := hr
      rw [hs]; exact hm.respond_slash
    · exact (step_noSlash s op hne fun r p c o h => hr ⟨r, p, c, o, h⟩).slashFor
  · rw [hs]; exact endBlock_slash h dt
  · rw [endBlock_nopanic h dt] at hp; cases hp

end SM
