import ServiceModel.Proofs.Atom
namespace SM
open Map

variable {ctxs : Map CtxId Ctx} {reqs : Map ReqId Req} {bindings : Map (SvcName × Addr) Binding}

theorem BoundInv.bindingsGrow (h : BoundInv ctxs reqs bindings) {bindings' : Map (SvcName × Addr) Binding}
    (hb : ∀ k, (Map.get bindings k).isSome → (Map.get bindings' k).isSome) : BoundInv ctxs reqs bindings' := by
  intro r q hq
  obtain ⟨x, hx, hbb, hsup⟩ := h r q hq
  exact ⟨x, hx, hb _ hbb, hsup⟩

theorem BoundInv.setBinding (h : BoundInv ctxs reqs bindings) {k : SvcName × Addr} {b : Binding} :
    BoundInv ctxs reqs (Map.set bindings k b) :=
  h.bindingsGrow fun _ hk => isSome_set _ _ _ _ hk

theorem BoundInv.setCtx (h : BoundInv ctxs reqs bindings) {c : CtxId} {x x' : Ctx}
    (hx : Map.get ctxs c = some x) (hs : x'.svc = x.svc ∧ x'.super = x.super) : BoundInv (Map.set ctxs c x') reqs bindings := by
  intro r q hq
  obtain ⟨y, hy, hb, hsup⟩ := h r q hq
  by_cases hc : c = r.ctx
  · subst hc; rw [hx] at hy; injection hy with hy; subst hy
    exact ⟨x', by simp, by rw [hs.1]; exact hb, by rw [hs.2]; exact hsup⟩
  · exact ⟨y, by rw [Map.get_set_other _ _ _ _ hc]; exact hy, hb, hsup⟩

theorem BoundInv.answer (h : BoundInv ctxs reqs bindings) {c : CtxId} {x : Ctx} (hx : Map.get ctxs c = some x) :
    BoundInv (Map.set ctxs c (answered x)) reqs bindings :=
  h.setCtx hx (by unfold answered; split <;> exact ⟨rfl, rfl⟩)

theorem BoundInv.reqsSub (h : BoundInv ctxs reqs bindings) {reqs' : Map ReqId Req}
    (hr : ∀ r q, Map.get reqs' r = some q → Map.get reqs r = some q) : BoundInv ctxs reqs' bindings :=
  fun r q hq => h r q (hr r q hq)

theorem BoundInv.ctxsOther (h : BoundInv ctxs reqs bindings) {ctxs' : Map CtxId Ctx} {c : CtxId}
    (hno : ∀ r q, Map.get reqs r = some q → r.ctx ≠ c)
    (hsame : ∀ c2, c2 ≠ c → Map.get ctxs' c2 = Map.get ctxs c2) : BoundInv ctxs' reqs bindings := by
  intro r q hq
  obtain ⟨y, hy, hb⟩ := h r q hq
  exact ⟨y, by rw [hsame _ (hno r q hq)]; exact hy, hb⟩

end SM
