import ServiceModel.Proofs.XOps
import ServiceModel.Proofs.XRespond
import ServiceModel.Proofs.BWorld
import ServiceModel.Proofs.MWorld
import ServiceModel.Proofs.Bound
/-!
Every accepted message or keeper call preserves `Inv`: one case per constructor of `Msg`. The post-state is a flat
update of `s`, so a world whose components the case does not write is that of `s` as it stands; the others come from
the lemmas about `BInv`, `XInv`, `MInv` and `BoundInv` under the change made to their components.
-/
namespace SM
open Map

theorem withdrawRecords_invM {s s1 : State} {o p : Addr} {amt escBal' : Nat} (hM : InvM s) (hB : InvB s)
    (hown : p ≠ "" → get s.owner p = some o) (hrec : withdrawRecords s o p = .ok (s1, amt))
    (hb : escBal' + amt = balOf s.bank.bal s.cfg.escrow) :
    MInv escBal' s.reqs s.activeI s1.earned s1.ownerEarned s.owner := by
  obtain ⟨-, h1, h2⟩ := withdrawRecords_ok hrec
  by_cases hp : p = ""
  · obtain ⟨rfl, he, hoe⟩ := h2 hp
    rw [he, hoe]
    exact hM.withdrawAll (providersOf s o) (providersOf_mem s hB o) hb
  · obtain ⟨rfl, he, hoe⟩ := h1 hp
    rw [he]
    exact hM.withdrawProv (hown hp) hb hoe

theorem Inv.created {s : State} (hi : Inv s) {id : CtxId} {mod : ModName} {svc : SvcName} {provs : List Addr} {cons : Addr}
    {cap : Option Nat} {capv : Nat} {timeout : Int} {super rep : Bool} {freq : Nat} {total : Int} {running : Bool} {thr : Nat}
    (hcons : ¬ s.modAcct cons) (hfresh : id ∉ s.usedIds)
    (hvr : validateRequest svc cap provs timeout rep freq total = none) :
    Inv (created s id (newCtxRec mod svc provs cons capv timeout super rep freq total running thr) running) where
  static := hi.static
  b := hi.b
  m := hi.m
  x := hi.x.create hfresh (newCtxRec_ok (validateRequest_none hvr).2.2.2.2) hcons rfl (by unfold newCtxRec; cases running <;> simp)
  bound := hi.bound.ctxsOther (c := id)
    (fun r q hq he => by
      obtain ⟨x, hx, _⟩ := hi.x.reqCtx r q hq
      exact hfresh (he ▸ hi.x.used r.ctx (by rw [hx]; rfl)))
    (fun _ hc => Map.get_set_other _ _ _ _ fun e => hc e.symm)

/-- Of the stateless validation only the request parameters of a `call` are needed: the keeper checks everything else
    again, and these for a module's context. -/
theorem Msg.inv_of {s s' : State} {op : Op} {e : List Effect} (h : Msg s op e s') (hi : Inv s) (hw : WF s op)
    (hv : ∀ {id svc provs cons cap timeout super rep freq total inputOk},
      op = .call id svc provs cons cap timeout super rep freq total inputOk →
      validateRequest svc cap provs timeout rep freq total = none) : Inv s' := by
  have hst := hi.static
  cases h with
  | fund a n =>
    have ha : ¬ s.custody a := hw
    exact { static := hst, x := hi.x, bound := hi.bound
            b := hi.b.sameBal (by rw [bankMint_bal, if_neg fun e => ha (.inr e.symm)])
            m := hi.m.sameBal (by rw [bankMint_bal, if_neg fun e => ha (.inl e.symm)]) }
  | xfer hb =>
    obtain ⟨ha, hb'⟩ := hw
    exact { static := hst, x := hi.x, bound := hi.bound
            b := hi.b.sameBal (send_keeps (x := s.cfg.deposit) hb (fun e => ha (.inr (.inl e.symm))) fun e => hb' (.inr e.symm))
            m := hi.m.sameBal (send_keeps (x := s.cfg.escrow) hb (fun e => ha (.inl e.symm)) fun e => hb' (.inl e.symm)) }
  | define => exact { static := hst, b := hi.b.addDef _ _, x := hi.x, m := hi.m, bound := hi.bound }
  | bind _ hdef hnew hown _ hpr hvp hmd hd hb =>
    exact { static := hst, x := hi.x
            b := (hi.b.addBinding hnew hdef hown hw hpr hvp ⟨_, hmd, hd⟩).sameBal
              (bankSend_dst hb fun e => hw (.inr (.inl e)))
            m := hi.m.addOwner.sameBal (send_keeps (x := s.cfg.escrow) hb (fun e => hw (.inl e.symm)) hst.ed)
            bound := hi.bound.setBinding }
  | update hb _ _ _ hpr hmin hbank =>
    obtain ⟨_, h0, _⟩ := hi.b.priced _ _ hb
    exact { static := hst, x := hi.x
            b := (hi.b.update hb (newTerms_ok hpr (by rw [h0]; rfl)) hmin).sameBal
              (dep_send_bal hbank fun e => hw (.inr (.inl e)))
            m := hi.m.sameBal (dep_send_keeps (x := s.cfg.escrow) hbank (fun e => hw (.inl e.symm)) hst.ed)
            bound := hi.bound.setBinding }
  | setwd => exact { static := hst, b := hi.b, x := hi.x, m := hi.m, bound := hi.bound }
  | disable hb =>
    exact { static := hst, x := hi.x, m := hi.m
            b := hi.b.updateBinding hb rfl rfl rfl nofun
            bound := hi.bound.setBinding }
  | @enable _ _ _ dep b md bank' hb _ _ _ hmd hd hbank =>
    obtain ⟨pr, hpr, _, _⟩ := hi.b.priced _ _ hb
    have hbal : balOf bank'.bal s.cfg.deposit + b.deposit = balOf s.bank.bal s.cfg.deposit + (b.deposit + dep.getD 0) := by
      rw [dep_send_bal hbank fun e => hw (.inr (.inl e))]; omega
    exact { static := hst, x := hi.x
            b := hi.b.updateBinding hb rfl rfl hbal fun _ => ⟨pr, md, hpr, by rw [← storedPricing_of_get hpr]; exact hmd, hd⟩
            m := hi.m.sameBal (dep_send_keeps (x := s.cfg.escrow) hbank (fun e => hw (.inl e.symm)) hst.ed)
            bound := hi.bound.setBinding }
  | refund hb _ hav _ _ hbank =>
    have hown := hi.b.ownerOk _ _ hb
    exact { static := hst, x := hi.x
            b := hi.b.updateBinding hb rfl rfl (send_src hbank fun e => hown (.inr (.inl e.symm)))
              fun h => nomatch hav.symm.trans h
            m := hi.m.sameBal (send_keeps (x := s.cfg.escrow) hbank hst.ed fun e => hown (.inl e.symm))
            bound := hi.bound.setBinding }
  | call => exact hi.created hw.1 hw.2.1 (hv rfl)
  | modcreate h => exact hi.created hw.1 hw.2.1 (createPre_none h.pre hw.2.2.1)
  | respondBad hq hx hact hs hb =>
    have hs := Slash.of_done hs
    have hcons := hi.x.ctxCons _ _ hx
    exact { static := hst, b := hs.refundB hst hcons hb hi.b, x := hi.x.answer hq hx hact
            m := hs.refundM hst hcons hb hi.m hi.x.activeNodup hq hact
            bound := (hi.bound.bindingsGrow hs.keys).answer hx }
  | @respondGood r _ _ q x _ hq hx hact _ hb htax =>
    obtain ⟨_, -, hbind, -⟩ := hi.bound r q hq
    obtain ⟨b, hb'⟩ := Option.isSome_iff_exists.mp hbind
    have hfee : feeAt s.reqs r = taxOf s q.fee + (q.fee - taxOf s q.fee) := by rw [feeAt_of_get hq]; omega
    exact { static := hst
            b := hi.b.sameBal (send_keeps (x := s.cfg.deposit) hb (fun e => hst.ed e.symm) hst.dc)
            x := hi.x.answer hq hx hact
            m := hi.m.earn hi.x.activeNodup hact hfee (send_src hb hst.ec) (by rw [hi.b.ownerOf _ _ b hb']; rfl)
            bound := hi.bound.answer hx }
  | pause hx | modpause hx | kill hx | modkill hx =>
    exact { static := hst, b := hi.b, m := hi.m
            x := hi.x.setCtx hx ⟨rfl, rfl, rfl, rfl, rfl, rfl⟩ (hi.x.ctxWF _ _ hx :) nofun
            bound := hi.bound.setCtx hx ⟨rfl, rfl⟩ }
  | start hx | modstart hx =>
    exact { static := hst, b := hi.b, m := hi.m, x := hi.x.start hx, bound := hi.bound.setCtx hx ⟨rfl, rfl⟩ }
  | updatectx hx h | modupdate hx h =>
    have hx1 := hi.x.update hx h.thr h.freq
    obtain ⟨t, rfl⟩ := updThr_eq h.thr
    exact { static := hst, b := hi.b, m := hi.m, x := hx1, bound := hi.bound.setCtx hx ⟨rfl, rfl⟩ }
  | withdraw hown hrec hdst hb =>
    exact { static := hst, x := hi.x, bound := hi.bound
            b := hi.b.sameBal (send_keeps (x := s.cfg.deposit) hb (fun e => hst.ed e.symm) fun e => hdst (.inr e.symm))
            m := (withdrawRecords_invM hi.m hi.b hown hrec (send_src hb fun e => hdst (.inl e.symm)) :) }

/-- in the form `step_of` asks for (`step_inv`) -/
theorem Msg.inv {s s' : State} {op : Op} {e : List Effect} (h : Msg s op e s') (hi : Inv s) (hw : WF s op)
    (hv : validateBasic op = true) : Inv s' :=
  h.inv_of hi hw fun hop => by
    subst hop
    exact Option.isNone_iff_eq_none.mp (Bool.and_eq_true_iff.mp hv).2

end SM
