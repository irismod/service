import ServiceModel.Model.EndBlock
/-!
# What `cleanBatch` removes
-/
namespace SM
open Map

theorem cleanBatch_resps (s : State) (c : CtxId) (b : Nat) (r : ReqId) :
    Map.get (cleanBatch s c b).resps r =
      if (Map.get s.reqs r).isSome ∧ r.ctx = c ∧ r.batch = b then none else Map.get s.resps r := by
  have := mem_filter_keys s.reqs (fun r => decide (r.ctx = c ∧ r.batch = b)) r
  rw [decide_eq_true_eq] at this
  unfold cleanBatch
  rw [get_foldl_del]; simp only [this]

theorem cleanBatch_reqs (s : State) (c : CtxId) (b : Nat) (r : ReqId) :
    Map.get (cleanBatch s c b).reqs r = if r.ctx = c ∧ r.batch = b then none else Map.get s.reqs r := by
  have := mem_filter_keys s.reqs (fun r => decide (r.ctx = c ∧ r.batch = b)) r
  rw [decide_eq_true_eq] at this
  unfold cleanBatch
  rw [get_foldl_del]; simp only [this]
  by_cases hm : r.ctx = c ∧ r.batch = b
  · rw [if_pos hm]
    split
    · rfl
    · rename_i hn
      exact Option.not_isSome_iff_eq_none.mp fun h => hn ⟨h, hm⟩
  · rw [if_neg hm, if_neg fun h => hm h.2]

theorem cleanBatch_frame (s : State) (c : CtxId) (b : Nat) :
    cleanBatch s c b = { s with reqs := (cleanBatch s c b).reqs, resps := (cleanBatch s c b).resps } := rfl

/-- the context record with which a batch's expiry ends: the stored one with its batch completed -/
structure Completed (x x1 : Ctx) : Prop where
  cons : x1.cons = x.cons
  svc : x1.svc = x.svc
  batch : x1.batch = x.batch
  super : x1.super = x.super
  timeout : x1.timeout = x.timeout
  rep : x1.rep = x.rep
  freq : x1.freq = x.freq
  bstate : x1.bstate = .completed
  provs : x1.provs = x.provs
  cap : x1.cap = x.cap

end SM
