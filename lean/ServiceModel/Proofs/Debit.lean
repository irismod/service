import ServiceModel.Proofs.CtxEvol
import ServiceModel.Proofs.LiftInv
/-!
C05: whose balance the end of a block can lower. The expiry handlers lower only the two custody accounts (refunds leave
the escrow, slashes burn from the deposit account); a new-batch handler lowers only the consumer of its context (the
payment for the batch). So over a whole end of block only the custody accounts and the consumers of the contexts that
exist when the block ends can hold less afterwards than before (`endBlock_balMono`).
-/
namespace SM
open Map

/-- no account outside `D` (and outside the custody accounts) holds less in `s'` than in `s`; configuration unchanged -/
def BalMono (D : List Addr) (s s' : State) : Prop :=
  s'.cfg = s.cfg ∧ ∀ a, ¬ s.custody a → a ∉ D → balOf s.bank.bal a ≤ balOf s'.bank.bal a

theorem BalMono.refl (D : List Addr) (s : State) : BalMono D s s := ⟨rfl, fun _ _ _ => Nat.le_refl _⟩
theorem BalMono.of_eq {D : List Addr} {s s' : State} (h1 : s'.cfg = s.cfg) (h2 : s'.bank = s.bank) : BalMono D s s' :=
  ⟨h1, fun _ _ _ => by rw [h2]; exact Nat.le_refl _⟩
theorem BalMono.trans {D : List Addr} {a b c : State} (h1 : BalMono D a b) (h2 : BalMono D b c) : BalMono D a c :=
  ⟨h2.1.trans h1.1, fun x hx hd => by
    have hx' : ¬ b.custody x := by unfold State.custody; rw [h1.1]; exact hx
    exact Nat.le_trans (h1.2 x hx hd) (h2.2 x hx' hd)⟩
theorem BalMono.weaken {D D' : List Addr} {s s' : State} (h : BalMono D s s') (hsub : ∀ a, a ∈ D → a ∈ D') :
    BalMono D' s s' := ⟨h.1, fun a ha hd => h.2 a ha (fun hin => hd (hsub a hin))⟩

/-- `BalMono` with the reference state for the custody test and the balances shifted along a chain -/
theorem balMono_chain {D : List Addr} {s a b : State} (h1 : BalMono D s a) (h2 : BalMono D a b) : BalMono D s b :=
  h1.trans h2

theorem Slash.balMono {D : List Addr} {s s1 : State} {r : ReqId} {svc : SvcName} {p : Addr} {e : List Effect}
    (h : Slash s r svc p e s1) : BalMono D s s1 := by
  cases h with
  | unbound | refused => exact BalMono.refl _ _
  | @burnt _ bank' _ _ _ hburn =>
    -- the slashed coins are burned from the deposit account
    refine ⟨rfl, fun a ha _ => Nat.le_of_eq ?_⟩
    rw [bankBurn_bal hburn a, if_neg (fun e => ha (Or.inr e))]

theorem Expire.balMono {D : List Addr} {s s' : State} {x : Ctx} {r : ReqId} {e : List Effect} (h : Expire s x r e s') :
    BalMono D s s' := by
  cases h with
  | lost | super => exact BalMono.of_eq rfl rfl
  | paid _ _ hs hb =>
    -- the refund leaves the escrow
    refine ⟨rfl, fun a ha hd => Nat.le_trans ((hs.balMono (D := D)).2 a ha hd) ?_⟩
    exact bankSend_mono hb (fun e => ha (Or.inl e))
  | unpaid _ _ hs => exact ⟨rfl, (hs.balMono (D := D)).2⟩

theorem Close.balMono {D : List Addr} {s s' : State} {c : CtxId} {e : List Effect} (h : Close s c e s') :
    BalMono D s s' := by
  cases h <;> exact BalMono.of_eq rfl rfl

theorem New.balMono {s s' : State} {c : CtxId} {e : List Effect} {x : Ctx} (h : New s c e s')
    (hx : get s.ctxs c = some x) : BalMono [x.cons] s s' := by
  cases h with
  | issue hx' _ _ _ hpay =>
    rw [hx] at hx'; cases hx'
    rcases hpay with ⟨_, rfl, _⟩ | ⟨_, hb, _⟩
    · exact BalMono.of_eq rfl rfl
    · exact ⟨rfl, fun a _ hd => bankSend_mono hb (fun e => hd (List.mem_singleton.mpr e))⟩
  | _ => exact BalMono.of_eq rfl rfl

/-! ### the handlers, whether they panic or not

A panic of `expireBatch` is that of `expireReq` on a pending request, which changes nothing; the state it leaves is the
one in which the settlement of the pending requests stopped. -/

theorem expirePhase_balMono (s : State) (l : List CtxId) : BalMono [] s (foldH expireBatch s l).s :=
  foldH_rel (BalMono.refl _) BalMono.trans
    (expireBatch_rel (BalMono.refl _) BalMono.trans (fun h => h.balMono) (fun h => h.balMono)) l s

theorem newBatch_balMono (s : State) (c : CtxId) (x : Ctx) (hx : get s.ctxs c = some x) :
    BalMono [x.cons] s (newBatch s c).s :=
  newBatch_of (R := fun _ s' => BalMono [x.cons] s s') s c (BalMono.refl _ s) fun _ h => h.balMono hx

def consumersOf (s : State) : List Addr := (Map.entries s.ctxs).map (fun p => p.2.cons)

theorem mem_consumersOf {s : State} {c : CtxId} {x : Ctx} (h : get s.ctxs c = some x) : x.cons ∈ consumersOf s :=
  List.mem_map.mpr ⟨(c, x), (Map.mem_entries _ _ _).mpr h, rfl⟩

theorem mem_consumersOf_iff (s : State) (a : Addr) : a ∈ consumersOf s ↔ ∃ c x, get s.ctxs c = some x ∧ x.cons = a := by
  constructor
  · intro h
    obtain ⟨⟨c, x⟩, hm, he⟩ := List.mem_map.mp h
    exact ⟨c, x, (Map.mem_entries _ _ _).mp hm, he⟩
  · rintro ⟨c, x, hg, he⟩
    exact he ▸ mem_consumersOf hg

def SameConsumer (x y : Ctx) : Prop := x.cons = y.cons

theorem SameConsumer.refl (x : Ctx) : SameConsumer x x := rfl

/-- One piece of the end of a block lowers only the custody accounts and the consumers of the contexts it started
    with, and brings in no other consumer: so the pieces chain up. -/
def BlockDebit (s s' : State) : Prop := BalMono (consumersOf s) s s' ∧ From SameConsumer s.ctxs s'.ctxs

theorem BlockDebit.refl (s : State) : BlockDebit s s := ⟨BalMono.refl _ s, .refl SameConsumer.refl _⟩

theorem BlockDebit.trans {a b c : State} (h1 : BlockDebit a b) (h2 : BlockDebit b c) : BlockDebit a c :=
  ⟨h1.1.trans (h2.1.weaken fun _ hy => by
      obtain ⟨k, y, hk, rfl⟩ := (mem_consumersOf_iff _ _).mp hy
      obtain ⟨x, hx, e⟩ := h1.2 k y hk
      exact e ▸ mem_consumersOf hx),
   h1.2.trans h2.2 Eq.trans⟩

theorem Expire.blockDebit {s s' : State} {x : Ctx} {r : ReqId} {e : List Effect} (h : Expire s x r e s') :
    BlockDebit s s' :=
  ⟨h.balMono, (congrArg State.ctxs h.frame :) ▸ .refl SameConsumer.refl _⟩

theorem Close.blockDebit {s s' : State} {c : CtxId} {e : List Effect} (h : Close s c e s') : BlockDebit s s' :=
  ⟨h.balMono, h.ctxs_from SameConsumer.refl fun _ => rfl⟩

theorem New.blockDebit {s s' : State} {c : CtxId} {e : List Effect} (h : New s c e s') : BlockDebit s s' := by
  have hb : ∀ {x}, get s.ctxs c = some x → BalMono (consumersOf s) s s' := fun hx =>
    (h.balMono hx).weaken fun a ha => List.mem_singleton.mp ha ▸ mem_consumersOf hx
  refine ⟨?_, h.ctxs_from SameConsumer.refl (fun _ _ _ _ => rfl) fun _ _ => rfl⟩
  cases h with
  | lost => exact BalMono.of_eq rfl rfl
  | drop hx | finish hx | issue hx | unfunded hx | skip hx => exact hb hx

/-- C05: over a whole end of block, only the custody accounts and the consumers of existing contexts can lose coins -/
theorem endBlock_balMono (s : State) (dt : Int) (h : Inv s) : BalMono (consumersOf s) s (endBlock s dt).s :=
  (endBlock_liftI (R := fun a _ b => BlockDebit a b) BlockDebit.refl BlockDebit.trans
    (fun _ _ _ _ h => h.blockDebit) (fun _ _ _ h => h.blockDebit) (fun _ _ h => h.blockDebit)
    (fun _ _ _ => ⟨BalMono.of_eq rfl rfl, .refl SameConsumer.refl _⟩) h dt).1

end SM
