import ServiceModel.Proofs.Lift
import ServiceModel.Model.Genesis
import ServiceModel.Basic.Scan
/-!
Definitions, bindings, the provider → owner map, withdrawal addresses and earnings are written by messages. The end
of a block reaches them only through the slashes of expired requests, which lower the deposit of a binding:
`BlockFrame`, proved once of `Expire` / `Close` / `New` and lifted to `endBlock`. So each family below is a case
analysis on `Msg` and a consequence of `BlockFrame`, put together by `step_lift_block`: what never changes (`Stable`,
C13, C15), how a deposit can change (`DepRel`, C03), the validity of the stored records (`RecOK`, C15, C19), one record
per binding key (`BK`), who can have earnings (`EK`, C19).
-/
namespace SM
open Map

/-! ### what never changes: definitions, the identity of a binding, the owner of a provider, and (except by the
owner's own message) the withdrawal address — over every step, unconditionally (C13, C15) -/

structure Stable (s s' : State) : Prop where
  defs : ∀ n d, get s.defs n = some d → get s'.defs n = some d
  bind : ∀ k b, get s.bindings k = some b → ∃ b', get s'.bindings k = some b' ∧ b'.owner = b.owner
  owner : ∀ p o, get s.owner p = some o → get s'.owner p = some o

theorem Stable.refl (s : State) : Stable s s := ⟨fun _ _ h => h, fun _ b h => ⟨b, h, rfl⟩, fun _ _ h => h⟩

theorem Stable.trans {a b c : State} (h1 : Stable a b) (h2 : Stable b c) : Stable a c :=
  ⟨fun n d h => h2.defs n d (h1.defs n d h),
   Into.trans (E := fun b b' : Binding => b'.owner = b.owner) h1.bind h2.bind fun e1 e2 => e2.trans e1,
   fun p o h => h2.owner p o (h1.owner p o h)⟩

theorem Stable.of_eq {s s' : State} (h1 : s'.defs = s.defs) (h2 : s'.bindings = s.bindings) (h3 : s'.owner = s.owner) :
    Stable s s' :=
  ⟨fun _ _ h => h1 ▸ h, fun _ b h => ⟨b, h2 ▸ h, rfl⟩, fun _ _ h => h3 ▸ h⟩

/-- what no operation other than `setwd` touches -/
def Keeps (s s' : State) : Prop := Stable s s' ∧ s'.withdraw = s.withdraw

theorem BlockFrame.keeps {s s' : State} (h : BlockFrame s s') : Keeps s s' :=
  ⟨⟨fun _ _ hd => h.defs ▸ hd, fun k b hb => (h.binds k b hb).imp fun _ hb' => ⟨hb'.1, hb'.2.owner⟩,
    fun _ _ ho => h.owner ▸ ho⟩, h.withdraw⟩

theorem cleanBatch_keeps (s : State) (c : CtxId) (b : Nat) : Keeps s (cleanBatch s c b) :=
  ⟨.of_eq rfl rfl rfl, rfl⟩

theorem Msg.stable {s s' : State} {op : Op} {e : List Effect} (h : Msg s op e s') : Stable s s' := by
  cases h with
  | define ok hnew => exact ⟨fun _ _ h => get_set_of_none hnew h, fun _ b h => ⟨b, h, rfl⟩, fun _ _ h => h⟩
  | bind hms hdef hnew hown =>
    -- a new binding under a key that had none; the owner record is written only when the provider had none
    refine ⟨fun _ _ h => h, Into.add (fun _ => rfl) hnew, fun _ _ h => ?_⟩
    dsimp only; split
    · exact get_set_of_none (Option.isNone_iff_eq_none.mp ‹_›) h
    · exact h
  | update hb | disable hb | enable hb | refund hb =>
    exact ⟨fun _ _ h => h, Into.set (fun _ => rfl) hb rfl, fun _ _ h => h⟩
  | respondBad _ _ _ hs => exact ⟨fun _ _ h => h, (Slash.of_done hs).block.keeps.1.bind, fun _ _ h => h⟩
  | _ => exact .of_eq rfl rfl rfl

theorem step_stable (s : State) (op : Op) : Stable s (step s op).1 :=
  step_lift_block op (.refl s) (fun _ h => h.stable) fun _ h => h.keeps.1

/-- the withdrawal address of `o` after a step: changed only by `o`'s own `setwd` -/
def Op.setsWithdrawOf (o : Addr) : Op → Bool
  | .setwd o' _ => o' = o
  | _ => false

theorem Msg.withdraw_addr {s s' : State} {op : Op} {e : List Effect} (h : Msg s op e s') {o : Addr}
    (hno : op.setsWithdrawOf o = false) : get s'.withdraw o = get s.withdraw o := by
  cases h with
  | setwd o' a => exact get_set_other _ _ _ _ (by simpa [Op.setsWithdrawOf] using hno)
  | _ => rfl

theorem step_withdraw_addr (s : State) (op : Op) (o : Addr) (hno : op.setsWithdrawOf o = false) :
    get (step s op).1.withdraw o = get s.withdraw o :=
  step_lift_block (R := fun s s' => get s'.withdraw o = get s.withdraw o) op rfl (fun _ h => h.withdraw_addr hno)
    fun _ h => congrArg (get · o) h.withdraw

def after (s : State) (ops : List Op) : State := ops.foldl (fun s o => (step s o).1) s

theorem stable_after (ops : List Op) : ∀ s, Stable s (after s ops) := by
  induction ops with
  | nil => intro s; exact Stable.refl s
  | cons op t ih => intro s; exact (step_stable s op).trans (ih _)

/-! ### how the deposit of a binding can change in one step (C03)

A step relates the deposits of a binding before and after by every reflexive `R` that contains `≤` if the operation may
raise a deposit and `≥` if it may lower one (`step_depRel`). With `R = (· ≤ ·)`: nothing but a refund, a slash at a
response, or the end of a block lowers a deposit. With `R = (· ≥ ·)`: nothing but update / enable raises one (bind
creates one). -/

/-- every binding of `s` is still there in `s'`, its deposits before and after related by `R` -/
def DepRel (R : Nat → Nat → Prop) (s s' : State) : Prop :=
  Into (fun b b' => R b.deposit b'.deposit) s.bindings s'.bindings

def Op.mayLowerDeposit : Op → Bool
  | .refund .. => true
  | .respond .. => true
  | .endblock _ => true
  | _ => false

def Op.mayRaiseDeposit : Op → Bool
  | .update .. => true
  | .enable .. => true
  | _ => false

section
variable {R : Nat → Nat → Prop}

theorem DepRel.of_block (hdn : ∀ a b, b ≤ a → R a b) {s s' : State} (h : BlockFrame s s') : DepRel R s s' :=
  fun k b hb => (h.binds k b hb).imp fun _ hb' => ⟨hb'.1, hdn _ _ hb'.2.deposit⟩

variable (hR : ∀ n, R n n)
include hR

/-- update and enable add to the deposit, a refund zeroes it, a malformed response slashes it; bind adds a binding -/
theorem Msg.dep {s s' : State} {op : Op} {e : List Effect} (h : Msg s op e s')
    (hup : op.mayRaiseDeposit = true → ∀ a b, a ≤ b → R a b)
    (hdn : op.mayLowerDeposit = true → ∀ a b, b ≤ a → R a b) : DepRel R s s' := by
  have hE : ∀ b : Binding, R b.deposit b.deposit := fun _ => hR _
  cases h with
  | bind _ _ hnew => exact Into.add hE hnew
  | update hb | enable hb => exact Into.set hE hb (hup rfl _ _ (Nat.le_add_right ..))
  | disable hb => exact Into.set hE hb (hR _)
  | refund hb => exact Into.set hE hb (hdn rfl _ _ (Nat.zero_le _))
  -- the post-state has the bindings the slash leaves
  | respondBad _ _ _ hs => exact (DepRel.of_block (hdn rfl) (Slash.of_done hs).block :)
  | _ => exact Into.refl hE _

theorem step_depRel (s : State) (op : Op) (hup : op.mayRaiseDeposit = true → ∀ a b, a ≤ b → R a b)
    (hdn : op.mayLowerDeposit = true → ∀ a b, b ≤ a → R a b) : DepRel R s (step s op).1 :=
  step_lift_block (R := DepRel R) op (Into.refl (fun b : Binding => hR b.deposit) _) (fun _ h => h.dep hR hup hdn)
    fun e h => .of_block (hdn (by rw [e]; rfl)) h

end

/-! ### every stored definition, binding and withdraw-address key is valid on its own (C15, C19)

`RecOK s`: the records of `s` pass the per-record rules of `ValidateGenesis` (on the fields the model carries). A
record is written only by a message that passed stateless validation (`validateBasic`), and the later rewrites of a
binding (update, enable, disable, refund, slash) keep its key, its owner and a positive QoS. For the withdraw-address
keys the 20-byte length of the signing owner is the environment assumption E1 (carried by `WF`). -/

structure RecOK (s : State) : Prop where
  defs : ∀ n d, get s.defs n = some d → defValid n d = true
  binds : ∀ k b, get s.bindings k = some b → bindingValid k b = true
  wd : ∀ o a, get s.withdraw o = some a → wdKeyValid o = true

theorem bindingValid_of {k : SvcName × Addr} {b b' : Binding} (ho : b'.owner = b.owner) (hq : 0 < b.qos → 0 < b'.qos)
    (hv : bindingValid k b = true) : bindingValid k b' = true := by
  simp only [bindingValid, Bool.and_eq_true, decide_eq_true_eq, ho] at hv ⊢
  exact ⟨hv.1, hq hv.2⟩

def VK (s s' : State) : Prop := RecOK s → RecOK s'

theorem VK.refl (s : State) : VK s s := id

theorem VK.of_eq {s s' : State} (h1 : s'.defs = s.defs) (h2 : s'.bindings = s.bindings) (h3 : s'.withdraw = s.withdraw) :
    VK s s' := fun h =>
  ⟨h1 ▸ h.defs, h2 ▸ h.binds, h3 ▸ h.wd⟩

theorem VK.setBinding {s s' : State} {k : SvcName × Addr} {b b' : Binding} (hb : get s.bindings k = some b)
    (h2 : s'.bindings = set s.bindings k b') (ho : b'.owner = b.owner) (hq : 0 < b.qos → 0 < b'.qos)
    (h1 : s'.defs = s.defs) (h3 : s'.withdraw = s.withdraw) : VK s s' := fun h =>
  ⟨h1 ▸ h.defs, h2 ▸ Map.forall_set h.binds (bindingValid_of ho hq (h.binds k b hb)), h3 ▸ h.wd⟩

theorem VK.of_block {s s' : State} (h : BlockFrame s s') : VK s s' := fun hr =>
  ⟨h.defs ▸ hr.defs, fun k b' hb' => by
    obtain ⟨b, hb, hs⟩ := h.binds.toFrom h.keys k b' hb'
    exact bindingValid_of hs.owner (hs.qos ▸ id) (hr.binds k b hb),
   h.withdraw ▸ hr.wd⟩

theorem Msg.vk {s s' : State} {op : Op} {e : List Effect} (h : Msg s op e s') (hw : WF s op)
    (hv : validateBasic op = true) : VK s s' := by
  cases h with
  | define =>
    refine fun hr => ⟨Map.forall_set hr.defs ?_, hr.binds, hr.wd⟩
    replace hv : defineVB _ _ _ = true := hv
    simp only [defineVB, Bool.and_eq_true] at hv
    simp only [defValid, Bool.and_eq_true]
    exact hv.1
  | @bind svc p o d text qos =>
    refine fun hr => ⟨hr.defs, Map.forall_set hr.binds ?_, hr.wd⟩
    -- (`simp` is slow to unfold `validateBasic` at a `bind`)
    replace hv : bindVB svc p o (some d) (some text) qos = true := hv
    simp only [bindVB, Bool.and_eq_true] at hv
    simp only [bindingValid, Bool.and_eq_true]
    exact ⟨hv.1.1.1, hv.1.2⟩
  | setwd o a => exact fun hr => ⟨hr.defs, hr.binds, Map.forall_set hr.wd (decide_eq_true hw.2)⟩
  | update hb =>
    refine VK.setBinding hb rfl rfl (fun hq => ?_) rfl rfl
    show 0 < if _ then _ else _
    split <;> omega
  | disable hb | enable hb | refund hb => exact VK.setBinding hb rfl rfl id rfl rfl
  | respondBad _ _ _ hs => exact fun hr => ⟨hr.defs, (VK.of_block (Slash.of_done hs).block hr).binds, hr.wd⟩
  | _ => exact VK.of_eq rfl rfl rfl

theorem step_vk (s : State) (op : Op) (hw : WF s op) : VK s (step s op).1 :=
  step_lift_block op (VK.refl s) (fun hv h => h.vk hw hv) fun _ h => .of_block h

theorem recOK {cfg : Config} {p : Params} {h0 t0 : Int} {s : State} (hr : Reachable cfg p h0 t0 s) : RecOK s := by
  induction hr with
  | init => constructor <;> (intro _ _ h; cases h)
  | step op _ hw ih => exact step_vk _ op hw ih

/-! ### the bindings map never holds two records under one key

`Map` is an association list with first-match lookup; `Map.set` rewrites the first match or appends. So a map built by
`set` from the empty map has duplicate-free keys, and a store scan (`entries`) of it is the map itself.
`Proofs/Restart.lean` needs that of `State.bindings`, to relate the deposits exported by a scan to the sum the deposit
account backs. -/

def BK (s s' : State) : Prop := NodupKeys s.bindings → NodupKeys s'.bindings

theorem BK.refl (s : State) : BK s s := fun h => h
theorem BK.of_eq {s s' : State} (h : s'.bindings = s.bindings) : BK s s' := fun hn => h ▸ hn
theorem BK.set {s s' : State} {k : SvcName × Addr} {b' : Binding} (h : s'.bindings = set s.bindings k b') : BK s s' :=
  fun hn => h ▸ nodupKeys_set _ _ _ hn
theorem BK.of_block {s s' : State} (h : BlockFrame s s') : BK s s' := fun hn => by
  unfold NodupKeys; rw [h.keys]; exact hn

theorem Msg.bk {s s' : State} {op : Op} {e : List Effect} (h : Msg s op e s') : BK s s' := by
  cases h with
  | bind | update | disable | enable | refund => exact BK.set rfl
  | respondBad _ _ _ hs => exact (BK.of_block (Slash.of_done hs).block :)
  | _ => exact BK.of_eq rfl

theorem cleanBatch_bk (s : State) (c : CtxId) (b : Nat) : BK s (cleanBatch s c b) :=
  BK.of_eq rfl

theorem step_bk (s : State) (op : Op) : BK s (step s op).1 :=
  step_lift_block op (BK.refl s) (fun _ h => h.bk) fun _ h => .of_block h

/-- in every reachable state the bindings map has one record per key: a store scan of it is the map itself -/
theorem bindings_nodupKeys {cfg : Config} {p : Params} {h0 t0 : Int} {s : State} (hr : Reachable cfg p h0 t0 s) :
    NodupKeys s.bindings := by
  induction hr with
  | init => exact nodupKeys_nil
  | step op _ _ ih => exact step_bk _ op ih

theorem entries_bindings {cfg : Config} {p : Params} {h0 t0 : Int} {s : State} (hr : Reachable cfg p h0 t0 s) :
    entries s.bindings = s.bindings := entries_of_nodupKeys _ (bindings_nodupKeys hr)

/-! ### who can have earnings: only an account that signed an accepted response (C19)

Since module accounts have no key (assumption E1, `WF`), no module account ever has earnings (`earnOK`). -/

def EK (E : List Addr) (s s' : State) : Prop :=
  s'.cfg = s.cfg ∧ ∀ p, (get s'.earned p).isSome → (get s.earned p).isSome ∨ p ∈ E

theorem EK.refl (E : List Addr) (s : State) : EK E s s := ⟨rfl, fun _ h => Or.inl h⟩
theorem EK.of_eq {E : List Addr} {s s' : State} (h1 : s'.cfg = s.cfg) (h2 : s'.earned = s.earned) : EK E s s' :=
  ⟨h1, fun _ h => Or.inl (h2 ▸ h)⟩
theorem EK.weaken {E : List Addr} {a b : State} (h : EK [] a b) : EK E a b :=
  ⟨h.1, fun p hp => by rcases h.2 p hp with h | h; exact Or.inl h; cases h⟩

/-- the accounts that may gain an earnings record through `op`: the signer of a response -/
def Op.earners : Op → List Addr
  | .respond _ p _ _ => [p]
  | _ => []

theorem Msg.ek {s s' : State} {op : Op} {e : List Effect} (h : Msg s op e s') : EK op.earners s s' := by
  cases h with
  | respondGood =>
    refine ⟨rfl, fun p hp => ?_⟩
    rcases isSome_addTo hp with h | h
    · exact Or.inr (List.mem_singleton.mpr h.symm)
    · exact Or.inl h
  | @withdraw o pv s1 _ _ _ hrec =>
    -- a withdrawal only removes earnings records: that of the provider, or those of all providers of the owner
    obtain ⟨-, h1, h2⟩ := withdrawRecords_ok hrec
    refine ⟨rfl, fun q hq => Or.inl ?_⟩
    by_cases hp : pv = ""
    · rw [(h2 hp).2.1, Map.get_foldl_del] at hq
      split at hq
      · cases hq
      · exact hq
    · rw [(h1 hp).2.1, Map.get_del] at hq
      split at hq
      · cases hq
      · exact hq
  | _ => exact EK.of_eq rfl rfl

theorem step_ek (s : State) (op : Op) : EK op.earners s (step s op).1 :=
  step_lift_block op (EK.refl _ s) (fun _ h => h.ek) fun _ h => .of_eq h.cfg h.earned

def EarnOK (s : State) : Prop := ∀ a, (get s.earned a).isSome → ¬ s.modAcct a

theorem step_earnOK (s : State) (op : Op) (hw : WF s op) (h : EarnOK s) : EarnOK (step s op).1 := by
  intro a ha
  obtain ⟨hcfg, hsub⟩ := step_ek s op
  have hm : (step s op).1.modAcct a ↔ s.modAcct a := by unfold State.modAcct; rw [hcfg]
  rw [hm]
  rcases hsub a ha with h1 | h1
  · exact h a h1
  · -- the signer of a response is not a module account
    cases op with
    | respond r pv code out => cases List.mem_singleton.mp h1; exact hw
    | _ => cases h1

theorem earnOK {cfg : Config} {p : Params} {h0 t0 : Int} {s : State} (hr : Reachable cfg p h0 t0 s) : EarnOK s := by
  induction hr with
  | init => intro a h; cases h
  | step op _ hw ih => exact step_earnOK _ op hw ih

end SM
