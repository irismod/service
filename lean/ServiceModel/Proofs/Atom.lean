import ServiceModel.Inv.Defs
/-!
# What a run of each handler does

The handlers of `Model/` are nests of guards around one record update. Every way a handler succeeds is written out
once here, as a constructor carrying the guards that held, the effects and the post-state: `Msg` for the message and
keeper operations, `Slash` for the slash they and the expiry share, `Expire` / `Close` / `New` for the work of the end of
a block (one expired request, the closing of an expired batch, one due context). `Panics` lists the ways a message
handler panics; every other run is an error that changes nothing (`Rejected`), so `Handled` is all a handler can
return. That the handlers do what these relations say is proved in `Proofs/Refine*.lean` and `Proofs/Lift.lean`; every
statement about `step` goes by cases on them.

Every post-state is ONE record update `{ s with … }` of the pre-state, never a nest of the model's helpers
(`setCtx (delExpQ s …) …`): unifying a projection of a nest of depth `d` with a projection of `s` makes Lean try
structure eta at every level and costs about 7^d (`(delNewQ (addExpQ (setCtx (delCtx s c) c x) c h) c h).defs = s.defs`
by `rfl` takes a second, two more levels time out), while a flat update costs nothing.
-/
namespace SM
open Map

/-- the guards of `createCtx` -/
structure CreateOK (s : State) (mod : ModName) (svc : SvcName) (provs : List Addr) (cap : Option Nat) (capv : Nat)
    (timeout : Int) (rep : Bool) (freq : Nat) (total : Int) (inputOk : Bool) (thr : Nat) : Prop where
  pre : createPre s mod svc provs cap timeout rep freq total thr = none
  defd : (get s.defs svc).isSome
  input : inputOk = true
  cap : cap = some capv
  capPos : capv ≠ 0
  tmo : timeout ≤ s.params.maxTimeout

/-- the state after `createCtx` has stored the record `x` under the fresh id -/
abbrev created (s : State) (id : CtxId) (x : Ctx) (running : Bool) : State :=
  { s with ctxs := set s.ctxs id x, usedIds := id :: s.usedIds,
           newQ := if running then FSet.ins s.newQ (s.height, id) else s.newQ,
           newH := if running then set s.newH id s.height else s.newH }

/-- a binding after a slash of `amt`: disabled when it falls below the minimum `md` -/
abbrev slashedB (b : Binding) (amt md : Nat) (time : Int) : Binding :=
  if b.avail = true ∧ b.deposit - amt < md then { b with deposit := b.deposit - amt, avail := false, disabledAt := time }
  else { b with deposit := b.deposit - amt }

/-- `Slash s r svc p e s'`: a run of `slash` (`Keeper.Slash`, for request `r`) that does not overflow. Nothing is burnt
    for a provider without a binding; otherwise the slash fraction of the deposit is burnt and the binding disabled if
    the rest is below its minimum `md`. (`refused`: the bank refuses the burn and the expiry handler skips the slash; it
    does not occur in a state that satisfies the invariants.) -/
inductive Slash (s : State) (r : ReqId) (svc : SvcName) (p : Addr) : List Effect → State → Prop
  | unbound (hb : get s.bindings (svc, p) = none) : Slash s r svc p [.slash r p 0] s
  | burnt {b : Binding} {bank' : Bank} {md : Nat} (hb : get s.bindings (svc, p) = some b)
      (hle : b.deposit * s.params.slash / decUnit ≤ b.deposit)
      (hburn : bankBurn s.bank s.cfg.deposit (b.deposit * s.params.slash / decUnit) = some bank')
      (hmd : b.avail = true → minDeposit s.params (storedPricing s svc p) = some md) :
      Slash s r svc p [.slash r p (b.deposit * s.params.slash / decUnit)]
        { s with bank := bank', bindings := set s.bindings (svc, p)
                   (slashedB b (b.deposit * s.params.slash / decUnit) md s.time) }
  | refused (h : slash s r svc p = .bankErr) : Slash s r svc p [] s

abbrev updatedB (b : Binding) (dep : Option Nat) (text : Option PricingText) (qos : Nat) : Binding :=
  { b with qos := if qos ≠ 0 then qos else b.qos, deposit := b.deposit + dep.getD 0,
           text := match text with | some t => t | none => b.text }

abbrev respRec (x : Ctx) (q : Req) (code : Nat) (out : OutKind) : Resp :=
  { prov := q.prov, cons := x.cons, code := code, out := out }

/-- the volume counters after one more response of the provider to the consumer -/
abbrev bumped (vol : Map (Addr × SvcName × Addr) Nat) (x : Ctx) (q : Req) : Map (Addr × SvcName × Addr) Nat :=
  set vol (x.cons, x.svc, q.prov) ((get vol (x.cons, x.svc, q.prov)).getD 0 + 1)

/-- the context record after one more response: the batch completes with the last one -/
abbrev answered (x : Ctx) : Ctx :=
  if x.respN + 1 = x.reqN then { x with respN := x.respN + 1, bstate := .completed } else { x with respN := x.respN + 1 }

/-- the effects of the completion, if this response was the last one; the callback reads the stored context and the
    responses of `s2` -/
abbrev lastEffs (s2 : State) (r : ReqId) (x : Ctx) : List Effect :=
  if x.respN + 1 = x.reqN then (completeBatch s2 r.ctx { x with respN := x.respN + 1 }).2 else []

abbrev taxOf (s : State) (fee : Nat) : Nat := fee * s.params.tax / decUnit

/-- the state after `startK`: the context runs again and, if neither of its queue pointers is set, is due now -/
abbrev started (s : State) (c : CtxId) (x : Ctx) : State :=
  { s with ctxs := set s.ctxs c { x with state := .running },
           newQ := if (get s.expH c).isNone ∧ (get s.newH c).isNone then FSet.ins s.newQ (s.height, c) else s.newQ,
           newH := if (get s.expH c).isNone ∧ (get s.newH c).isNone then set s.newH c s.height else s.newH }

/-- the guards of `updateK` on the stored record `x`; `x1` carries the new response threshold -/
structure UpdateOK (s : State) (x x1 : Ctx) (provs : List Addr) (thr : Nat) (cap : Option Nat) (timeout : Int)
    (freq : Nat) (total : Int) : Prop where
  live : x.state ≠ .completed
  thr : updThr x provs thr cap timeout freq total = .ok x1
  cap : cap ≠ some 0
  tmo : timeout ≤ s.params.maxTimeout
  freq : ¬ (effTimeout x timeout < 0 ∨ (effFreq x freq : Int) < effTimeout x timeout)
  total : ¬ (total ≥ 1 ∧ total < (x.batch : Int))

/-- `Msg s op e s'`: the message or keeper call `op` is accepted in `s`, emits `e` and leaves `s'` -/
inductive Msg (s : State) : Op → List Effect → State → Prop
  | fund (a : Addr) (n : Nat) : Msg s (.fund a n) [] { s with bank := bankMint s.bank a n }
  | xfer {a b : Addr} {n : Nat} {bank' : Bank} (hb : bankSend s.bank a b n = some bank') :
      Msg s (.xfer a b n) [] { s with bank := bank' }
  | define {n : SvcName} {a : Addr} (ok : Bool) (hnew : get s.defs n = none) :
      Msg s (.define n a ok) [] { s with defs := set s.defs n { author := a } }
  | bind {svc : SvcName} {p o : Addr} {d : Nat} {text : PricingText} {qos : Nat} {pr : Pricing} {md : Nat} {bank' : Bank}
      (hms : s.cfg.modsvc ≠ some svc) (hdef : (get s.defs svc).isSome) (hnew : get s.bindings (svc, p) = none)
      (hown : get s.owner p = none ∨ get s.owner p = some o) (hqos : (qos : Int) ≤ s.params.maxTimeout)
      (hpr : parsePricing text = .ok pr) (hvp : validPricing pr = true)
      (hmd : minDeposit s.params pr = some md) (hd : md ≤ d)
      (hb : bankSend s.bank o s.cfg.deposit d = some bank') :
      Msg s (.bind svc p o (some d) (some text) qos) [.transfer o s.cfg.deposit d]
        { s with bank := bank',
                 bindings := set s.bindings (svc, p)
                   { owner := o, deposit := d, avail := true, disabledAt := zeroTime, qos := qos, text := text },
                 ownerBind := FSet.ins s.ownerBind (o, svc, p), pricing := set s.pricing (svc, p) pr,
                 owner := if (get s.owner p).isNone then set s.owner p o else s.owner,
                 ownerProv := if (get s.owner p).isNone then FSet.ins s.ownerProv (o, p) else s.ownerProv }
  | update {svc : SvcName} {p o : Addr} {dep : Option Nat} {text : Option PricingText} {qos : Nat} {b : Binding}
      {pr : Pricing} {bank' : Bank}
      (hb : get s.bindings (svc, p) = some b) (ho : o = b.owner)
      (hqos : ¬ (qos ≠ 0 ∧ (qos : Int) > s.params.maxTimeout))
      (hov : ¬ (dep.isSome ∧ b.deposit + dep.getD 0 ≥ intLimit))
      (hpr : newTerms s svc p text = .ok pr)
      (hmin : minCheck s.params (updatedB b dep text qos) (decide (qos ≠ 0) || dep.isSome || text.isSome) pr = none)
      (hbank : (if dep.isSome then bankSend s.bank o s.cfg.deposit (dep.getD 0) else some s.bank) = some bank') :
      Msg s (.update svc p o dep text qos) (if dep.getD 0 = 0 then [] else [.transfer o s.cfg.deposit (dep.getD 0)])
        { s with bank := bank',
                 bindings := set s.bindings (svc, p) (updatedB b dep text qos),
                 pricing := if text.isSome then set s.pricing (svc, p) pr else s.pricing }
  | setwd (o a : Addr) : Msg s (.setwd o a) [] { s with withdraw := set s.withdraw o a }
  | disable {svc : SvcName} {p o : Addr} {b : Binding}
      (hb : get s.bindings (svc, p) = some b) (ho : o = b.owner) (hav : b.avail = true) :
      Msg s (.disable svc p o) []
        { s with bindings := set s.bindings (svc, p) { b with avail := false, disabledAt := s.time } }
  | enable {svc : SvcName} {p o : Addr} {dep : Option Nat} {b : Binding} {md : Nat} {bank' : Bank}
      (hb : get s.bindings (svc, p) = some b) (ho : o = b.owner) (hav : b.avail = false)
      (hov : ¬ (dep.isSome ∧ b.deposit + dep.getD 0 ≥ intLimit))
      (hmd : minDeposit s.params (storedPricing s svc p) = some md) (hd : md ≤ b.deposit + dep.getD 0)
      (hbank : (if dep.isSome then bankSend s.bank o s.cfg.deposit (dep.getD 0) else some s.bank) = some bank') :
      Msg s (.enable svc p o dep) (if dep.getD 0 = 0 then [] else [.transfer o s.cfg.deposit (dep.getD 0)])
        { s with bank := bank',
                 bindings := set s.bindings (svc, p)
                   { b with deposit := b.deposit + dep.getD 0, avail := true, disabledAt := zeroTime } }
  | refund {svc : SvcName} {p o : Addr} {b : Binding} {bank' : Bank}
      (hb : get s.bindings (svc, p) = some b) (ho : o = b.owner) (hav : b.avail = false) (hpos : b.deposit ≠ 0)
      (htime : ¬ s.time < b.disabledAt + s.params.arbitration + s.params.complaint)
      (hbank : bankSend s.bank s.cfg.deposit b.owner b.deposit = some bank') :
      Msg s (.refund svc p o) [.transfer s.cfg.deposit b.owner b.deposit]
        { s with bank := bank', bindings := set s.bindings (svc, p) { b with deposit := 0 } }
  | call {id : CtxId} {svc : SvcName} {provs : List Addr} {cons : Addr} {cap : Option Nat} {capv : Nat} {timeout : Int}
      {super rep : Bool} {freq : Nat} {total : Int} {inputOk : Bool}
      (hms : s.cfg.modsvc ≠ some svc) (h : CreateOK s "" svc provs cap capv timeout rep freq total inputOk 0) :
      Msg s (.call id svc provs cons cap timeout super rep freq total inputOk) []
        (created s id (newCtxRec "" svc provs cons capv timeout super rep freq total true 0) true)
  | modcreate {id : CtxId} {mod : ModName} {svc : SvcName} {provs : List Addr} {cons : Addr} {cap : Option Nat}
      {capv : Nat} {timeout : Int} {super rep : Bool} {freq : Nat} {total : Int} {inputOk running : Bool} {thr : Nat}
      (h : CreateOK s mod svc provs cap capv timeout rep freq total inputOk thr) :
      Msg s (.modcreate id mod svc provs cons cap timeout super rep freq total inputOk running thr) []
        (created s id (newCtxRec mod svc provs cons capv timeout super rep freq total running thr) running)
  /-- a malformed answer: the provider is slashed and the consumer refunded in full -/
  | respondBad {r : ReqId} {code : Nat} {q : Req} {x : Ctx} {s1 : State} {e1 : List Effect} {bank' : Bank}
      (hq : get s.reqs r = some q) (hx : get s.ctxs r.ctx = some x) (hact : r ∈ s.activeI)
      (hs : slash s r x.svc q.prov = .done s1 e1)
      (hb : bankSend s1.bank s.cfg.escrow x.cons q.fee = some bank') :
      Msg s (.respond r q.prov code .malformed)
        (e1 ++ (if q.fee = 0 then [] else [.transfer s.cfg.escrow x.cons q.fee]) ++
          lastEffs { s with resps := set s.resps r (respRec x q code .malformed) } r x)
        { s with bank := bank', bindings := s1.bindings, resps := set s.resps r (respRec x q code .malformed),
                 activeB := FSet.rem s.activeB (x.svc, q.prov, q.expH, r), activeI := FSet.rem s.activeI r,
                 volume := bumped s.volume x q, ctxs := set s.ctxs r.ctx (answered x) }
  /-- any other answer: the tax goes to the collector, the rest to the provider's and its owner's earnings -/
  | respondGood {r : ReqId} {code : Nat} {out : OutKind} {q : Req} {x : Ctx} {bank' : Bank}
      (hq : get s.reqs r = some q) (hx : get s.ctxs r.ctx = some x) (hact : r ∈ s.activeI) (hout : out ≠ .malformed)
      (hb : bankSend s.bank s.cfg.escrow s.cfg.collector (taxOf s q.fee) = some bank') (htax : taxOf s q.fee ≤ q.fee) :
      Msg s (.respond r q.prov code out)
        ((if taxOf s q.fee = 0 then [] else [.transfer s.cfg.escrow s.cfg.collector (taxOf s q.fee)]) ++
          lastEffs { s with resps := set s.resps r (respRec x q code out) } r x)
        { s with bank := bank', earned := addTo s.earned q.prov (q.fee - taxOf s q.fee),
                 ownerEarned := addTo s.ownerEarned ((get s.owner q.prov).getD "") (q.fee - taxOf s q.fee),
                 resps := set s.resps r (respRec x q code out),
                 activeB := FSet.rem s.activeB (x.svc, q.prov, q.expH, r), activeI := FSet.rem s.activeI r,
                 volume := bumped s.volume x q, ctxs := set s.ctxs r.ctx (answered x) }
  | pause {c : CtxId} {cons : Addr} {x : Ctx}
      (hx : get s.ctxs c = some x) (hrep : x.rep = true) (hrun : x.state = .running)
      (hc : cons = x.cons) (hm : x.mod = "") :
      Msg s (.pause c cons) [] { s with ctxs := set s.ctxs c { x with state := .paused } }
  | modpause {c : CtxId} {cons : Addr} {x : Ctx}
      (hx : get s.ctxs c = some x) (hrep : x.rep = true) (hrun : x.state = .running) (hc : x.mod ≠ "" → cons = x.cons) :
      Msg s (.modpause c cons) [] { s with ctxs := set s.ctxs c { x with state := .paused } }
  | start {c : CtxId} {cons : Addr} {x : Ctx}
      (hx : get s.ctxs c = some x) (hp : x.state = .paused) (hc : cons = x.cons) (hm : x.mod = "") :
      Msg s (.start c cons) [] (started s c x)
  | modstart {c : CtxId} {cons : Addr} {x : Ctx}
      (hx : get s.ctxs c = some x) (hp : x.state = .paused) (hc : x.mod ≠ "" → cons = x.cons) :
      Msg s (.modstart c cons) [] (started s c x)
  | kill {c : CtxId} {cons : Addr} {x : Ctx}
      (hx : get s.ctxs c = some x) (hrep : x.rep = true) (hc : cons = x.cons) (hm : x.mod = "") :
      Msg s (.kill c cons) [] { s with ctxs := set s.ctxs c { x with state := .completed } }
  | modkill {c : CtxId} {cons : Addr} {x : Ctx}
      (hx : get s.ctxs c = some x) (hrep : x.rep = true) (hc : x.mod ≠ "" → cons = x.cons) :
      Msg s (.modkill c cons) [] { s with ctxs := set s.ctxs c { x with state := .completed } }
  | updatectx {c : CtxId} {cons : Addr} {provs : List Addr} {cap : Option Nat} {timeout : Int} {freq : Nat} {total : Int}
      {x x1 : Ctx} (hx : get s.ctxs c = some x) (h : UpdateOK s x x1 provs 0 cap timeout freq total)
      (hc : cons = x.cons) (hm : x.mod = "") :
      Msg s (.updatectx c cons provs cap timeout freq total) []
        { s with ctxs := set s.ctxs c (updFields x1 provs cap (effTimeout x timeout) (effFreq x freq) total) }
  | modupdate {c : CtxId} {cons : Addr} {provs : List Addr} {thr : Nat} {cap : Option Nat} {timeout : Int} {freq : Nat}
      {total : Int} {x x1 : Ctx} (hx : get s.ctxs c = some x) (h : UpdateOK s x x1 provs thr cap timeout freq total)
      (hc : x.mod ≠ "" → cons = x.cons) :
      Msg s (.modupdate c cons provs thr cap timeout freq total) []
        { s with ctxs := set s.ctxs c (updFields x1 provs cap (effTimeout x timeout) (effFreq x freq) total) }
  | withdraw {o p : Addr} {s1 : State} {amt : Nat} {bank' : Bank}
      (hown : p ≠ "" → get s.owner p = some o) (hrec : withdrawRecords s o p = .ok (s1, amt))
      (hdst : ¬ s.custody ((get s.withdraw o).getD o))
      (hb : bankSend s.bank s.cfg.escrow ((get s.withdraw o).getD o) amt = some bank') :
      Msg s (.withdraw o p) (if amt = 0 then [] else [.transfer s.cfg.escrow ((get s.withdraw o).getD o) amt])
        { s with bank := bank', earned := s1.earned, ownerEarned := s1.ownerEarned }

/-- `Panics s op`: the handler of `op` panics in `s` (baseapp recovers the panic and the state is unchanged). One
    constructor per site: checked `sdk.Int` arithmetic on a price, a deposit or a minimum deposit (bind, update,
    enable: the finding D9); a settlement or a withdrawal that the bank or the books refuse (not in a state that
    satisfies the invariants); the call of the module's own service (which `WF` excludes). -/
inductive Panics (s : State) : Op → Prop
  | bindParse {svc : SvcName} {p o : Addr} {d : Nat} {text : PricingText} {qos : Nat}
      (hpr : parsePricing text = .overflow) : Panics s (.bind svc p o (some d) (some text) qos)
  | bindMin {svc : SvcName} {p o : Addr} {d : Nat} {text : PricingText} {qos : Nat} {pr : Pricing}
      (hpr : parsePricing text = .ok pr) (hmd : minDeposit s.params pr = none) :
      Panics s (.bind svc p o (some d) (some text) qos)
  | updateSum {svc : SvcName} {p o : Addr} {dep : Option Nat} {text : Option PricingText} {qos : Nat} {b : Binding}
      (hb : get s.bindings (svc, p) = some b) (hov : dep.isSome ∧ b.deposit + dep.getD 0 ≥ intLimit) :
      Panics s (.update svc p o dep text qos)
  | updateTerms {svc : SvcName} {p o : Addr} {dep : Option Nat} {t : PricingText} {qos : Nat} {b : Binding}
      (hb : get s.bindings (svc, p) = some b) (hpr : parsePricing t = .overflow) :
      Panics s (.update svc p o dep (some t) qos)
  | updateMin {svc : SvcName} {p o : Addr} {dep : Option Nat} {text : Option PricingText} {qos : Nat} {b : Binding}
      {pr : Pricing} (hb : get s.bindings (svc, p) = some b) (hpr : newTerms s svc p text = .ok pr)
      (hmd : minDeposit s.params pr = none) : Panics s (.update svc p o dep text qos)
  | enableSum {svc : SvcName} {p o : Addr} {dep : Option Nat} {b : Binding}
      (hb : get s.bindings (svc, p) = some b) (hov : dep.isSome ∧ b.deposit + dep.getD 0 ≥ intLimit) :
      Panics s (.enable svc p o dep)
  | enableMin {svc : SvcName} {p o : Addr} {dep : Option Nat} {b : Binding}
      (hb : get s.bindings (svc, p) = some b) (hmd : minDeposit s.params (storedPricing s svc p) = none) :
      Panics s (.enable svc p o dep)
  | settle {r : ReqId} {code : Nat} {out : OutKind} {q : Req} {x : Ctx} {m : String}
      (hq : get s.reqs r = some q) (hx : get s.ctxs r.ctx = some x) (hact : r ∈ s.activeI)
      (hs : settle s r x.svc x.cons q q.prov out = .error (.panic m)) : Panics s (.respond r q.prov code out)
  | withdraw {o p : Addr} {m : String} (hown : p ≠ "" → get s.owner p = some o)
      (hrec : withdrawRecords s o p = .error (.panic m)) : Panics s (.withdraw o p)
  | modsvc {id : CtxId} {svc : SvcName} {provs : List Addr} {cons : Addr} {cap : Option Nat} {timeout : Int}
      {super rep : Bool} {freq : Nat} {total : Int} {inputOk : Bool} (h : s.cfg.modsvc = some svc) :
      Panics s (.call id svc provs cons cap timeout super rep freq total inputOk)

/-- the handler refused without panicking -/
def Rejected (s : State) (out : Out) : Prop := ∃ r, r ≠ .ok ∧ (∀ m, r ≠ .panic m) ∧ out = (s, r, [])

def Panicked (s : State) (op : Op) (out : Out) : Prop := ∃ m, Panics s op ∧ out = (s, .panic m, [])

/-- all that the handler of `op` may return in `s` -/
def Handled (s : State) (op : Op) (out : Out) : Prop :=
  Rejected s out ∨ Panicked s op out ∨ ∃ e s', Msg s op e s' ∧ out = (s', .ok, e)

theorem Rejected.mk {s : State} {e : Err} : Rejected s (fail s e) := ⟨.err e, nofun, nofun, rfl⟩
theorem Handled.rej {s : State} {op : Op} {e : Err} : Handled s op (fail s e) := .inl .mk
theorem Handled.panic {s : State} {op : Op} {m : String} (h : Panics s op) : Handled s op (panicOut s m) :=
  .inr (.inl ⟨m, h, rfl⟩)
theorem Handled.acc {s s' : State} {op : Op} {e : List Effect} (h : Msg s op e s') : Handled s op (s', .ok, e) :=
  .inr (.inr ⟨e, s', h, rfl⟩)

theorem Handled.refused {s : State} {op : Op} {r : Res} (hr : (∃ e, r = .err e) ∨ ∃ m, r = .panic m)
    (hp : ∀ m, r = .panic m → Panics s op) : Handled s op (s, r, []) := by
  obtain ⟨e, rfl⟩ | ⟨m, rfl⟩ := hr
  · exact .rej
  · exact .panic (hp m rfl)

/-- One `if … then fail …` guard of a handler. Applied to the hypothesis, this looks at the head `if` only, where
    `split at h` simplifies the whole unfolded handler (dear when the handler is long and the guards are many). -/
theorem Handled.guard {s : State} {op : Op} {c : Prop} [Decidable c] {e : Err} {b out : Out}
    (h : (if c then fail s e else b) = out) (k : ¬ c → b = out → Handled s op out) : Handled s op out := by
  split at h
  · subst h; exact .rej
  · exact k ‹_› h

theorem Handled.panics {s : State} {op : Op} {out : Out} {m : String} (h : Handled s op out)
    (hp : out.2.1 = .panic m) : Panics s op := by
  obtain ⟨_, _, hr, rfl⟩ | ⟨_, h, _⟩ | ⟨_, _, _, rfl⟩ := h
  · exact absurd hp (hr m)
  · exact h
  · cases hp

theorem Handled.state {s : State} {op : Op} {out : Out} (h : Handled s op out) :
    out.1 = s ∨ ∃ e s', Msg s op e s' ∧ out = (s', .ok, e) := by
  obtain ⟨_, _, _, rfl⟩ | ⟨_, _, rfl⟩ | h := h
  · exact .inl rfl
  · exact .inl rfl
  · exact .inr h

theorem Handled.ok {s : State} {op : Op} {out : Out} (h : Handled s op out) (hok : out.2.1 = .ok) :
    ∃ e s', Msg s op e s' ∧ out = (s', .ok, e) := by
  obtain ⟨_, hr, _, rfl⟩ | ⟨_, _, rfl⟩ | h := h
  · exact absurd hok hr
  · cases hok
  · exact h

/-- `Expire s x r e s'`: what `expireReq x s r` does when it does not panic. The provider is slashed and the fee
    returned unless the context is in super mode; a slash or a refund the bank refuses is skipped.
    (`lost`, `unpaid` and a `refused` slash do not occur in a state that satisfies the invariants.) -/
inductive Expire (s : State) (x : Ctx) (r : ReqId) : List Effect → State → Prop
  | lost (hq : get s.reqs r = none) : Expire s x r [] { s with activeI := FSet.rem s.activeI r }
  | super {q : Req} (hq : get s.reqs r = some q) (hsup : x.super = true) :
      Expire s x r []
        { s with activeB := FSet.rem s.activeB (x.svc, q.prov, q.expH, r), activeI := FSet.rem s.activeI r }
  | paid {q : Req} {s1 : State} {e1 : List Effect} {bank' : Bank} (hq : get s.reqs r = some q) (hsup : x.super = false)
      (hs : Slash s r x.svc q.prov e1 s1) (hb : bankSend s1.bank s.cfg.escrow x.cons q.fee = some bank') :
      Expire s x r (e1 ++ (if q.fee = 0 then [] else [.transfer s.cfg.escrow x.cons q.fee]))
        { s with bank := bank', bindings := s1.bindings,
                 activeB := FSet.rem s.activeB (x.svc, q.prov, q.expH, r), activeI := FSet.rem s.activeI r }
  | unpaid {q : Req} {s1 : State} {e1 : List Effect} (hq : get s.reqs r = some q) (hsup : x.super = false)
      (hs : Slash s r x.svc q.prov e1 s1) (hb : bankSend s1.bank s.cfg.escrow x.cons q.fee = none) :
      Expire s x r (e1 ++ [.xferFail s.cfg.escrow x.cons q.fee])
        { s with bank := s1.bank, bindings := s1.bindings,
                 activeB := FSet.rem s.activeB (x.svc, q.prov, q.expH, r), activeI := FSet.rem s.activeI r }

/-- a context goes on to another batch after this one -/
def Ctx.more (x : Ctx) : Prop := x.rep = true ∧ (x.total < 0 ∨ (x.batch : Int) < x.total)

/-- the completion of a batch that its responses had not completed: the callback of a module context and the event -/
abbrev closeEffs (s : State) (c : CtxId) (x : Ctx) : List Effect :=
  if x.bstate ≠ .completed then (completeBatch s c x).2 else []

/-- `Close s c e s'`: the second half of `expireBatch s c`, run once no request of the batch is pending: the batch is
    completed (with its callback, if its responses had not completed it), its records are removed, and the context is
    removed, queued for its next batch or left paused. (`lost` does not occur in a state that satisfies the
    invariants.) -/
inductive Close (s : State) (c : CtxId) : List Effect → State → Prop
  | lost (hx : get s.ctxs c = none) :
      Close s c [] { s with expQ := FSet.rem s.expQ (s.height, c), expH := del s.expH c }
  | remove {x : Ctx} (hx : get s.ctxs c = some x) (h : x.state = .completed ∨ x.state = .running ∧ ¬ x.more) :
      Close s c (closeEffs s c x ++ [.ev "complete_context" c])
        { s with expQ := FSet.rem s.expQ (s.height, c), expH := del s.expH c,
                 ctxs := del s.ctxs c,
                 reqs := (cleanBatch s c x.batch).reqs, resps := (cleanBatch s c x.batch).resps }
  | again {x : Ctx} (hx : get s.ctxs c = some x) (hrun : x.state = .running) (h : x.more) :
      Close s c (closeEffs s c x)
        { s with expQ := FSet.rem s.expQ (s.height, c), expH := del s.expH c,
                 ctxs := set s.ctxs c { x with bstate := .completed },
                 newQ := FSet.ins s.newQ (s.height - x.timeout + x.freq, c),
                 newH := set s.newH c (s.height - x.timeout + x.freq),
                 reqs := (cleanBatch s c x.batch).reqs, resps := (cleanBatch s c x.batch).resps }
  | park {x : Ctx} (hx : get s.ctxs c = some x) (hp : x.state = .paused) :
      Close s c (closeEffs s c x)
        { s with expQ := FSet.rem s.expQ (s.height, c), expH := del s.expH c,
                 ctxs := set s.ctxs c { x with bstate := .completed },
                 reqs := (cleanBatch s c x.batch).reqs, resps := (cleanBatch s c x.batch).resps }

/-- the record with which a context starts its next batch of `n` requests -/
abbrev nextBatch (x : Ctx) (n : Nat) : Ctx :=
  { x with batch := x.batch + 1, bstate := .running, respN := 0, reqN := n, bthr := x.thr }

/-- a repeated context whose total has been reached -/
def Ctx.done (x : Ctx) : Prop := x.state = .running ∧ x.rep = true ∧ x.total ≥ 0 ∧ (x.batch : Int) ≥ x.total

def quorum (s : State) (x : Ctx) : Prop := (eligible s x).length > 0 ∧ (eligible s x).length ≥ x.thr

/-- `New s c e s'`: what `newBatch s c` does to a context that is due. (`lost` does not occur in a state that
    satisfies the invariants.) -/
inductive New (s : State) (c : CtxId) : List Effect → State → Prop
  | lost (hx : get s.ctxs c = none) :
      New s c [] { s with newQ := FSet.rem s.newQ (s.height, c), newH := del s.newH c }
  | finish {x : Ctx} (hx : get s.ctxs c = some x) (h : x.done) :
      New s c [.ev "complete_context" c]
        { s with ctxs := del s.ctxs c, newQ := FSet.rem s.newQ (s.height, c), newH := del s.newH c }
  | drop {x : Ctx} (hx : get s.ctxs c = some x) (hnr : x.state ≠ .running) :
      New s c [] { s with newQ := FSet.rem s.newQ (s.height, c), newH := del s.newH c }
  /-- a batch is issued, after the consumer has paid unless the context is in super mode -/
  | issue {x : Ctx} {bank' : Bank} {ep : List Effect} (hx : get s.ctxs c = some x) (hrun : x.state = .running)
      (hnd : ¬ x.done) (hel : quorum s x)
      (hpay : x.super = true ∧ bank' = s.bank ∧ ep = [] ∨
        x.super = false ∧ bankSend s.bank x.cons s.cfg.escrow (sumPrices (eligible s x)) = some bank' ∧
          ep = if sumPrices (eligible s x) = 0 then [] else [.transfer x.cons s.cfg.escrow (sumPrices (eligible s x))]) :
      New s c (ep ++ [.evReqs c (eligible s x).length] ++ [.ev "new_batch" c])
        { s with bank := bank', reqs := (issueReqs { s with bank := bank' } c x (eligible s x) 0).reqs,
                 activeB := (issueReqs { s with bank := bank' } c x (eligible s x) 0).activeB,
                 activeI := (issueReqs { s with bank := bank' } c x (eligible s x) 0).activeI,
                 ctxs := set s.ctxs c (nextBatch x (eligible s x).length),
                 expQ := FSet.ins s.expQ (s.height + x.timeout, c), expH := set s.expH c (s.height + x.timeout),
                 newQ := FSet.rem s.newQ (s.height, c), newH := del s.newH c }
  /-- the consumer cannot pay: the context is paused -/
  | unfunded {x : Ctx} (hx : get s.ctxs c = some x) (hrun : x.state = .running) (hnd : ¬ x.done) (hel : quorum s x)
      (hsup : x.super = false) (hb : bankSend s.bank x.cons s.cfg.escrow (sumPrices (eligible s x)) = none) :
      New s c ([.xferFail x.cons s.cfg.escrow (sumPrices (eligible s x)),
                if x.mod ≠ "" then .statecb c else .ev "pause_context" c] ++ [.ev "new_batch" c])
        { s with ctxs := set s.ctxs c { x with bstate := .completed, state := .paused },
                 newQ := FSet.rem s.newQ (s.height, c), newH := del s.newH c }
  /-- too few eligible providers: the batch is skipped, an empty one takes its place -/
  | skip {x : Ctx} (hx : get s.ctxs c = some x) (hrun : x.state = .running) (hnd : ¬ x.done) (hel : ¬ quorum s x) :
      New s c [.ev "new_batch" c]
        { s with ctxs := set s.ctxs c (nextBatch x 0),
                 expQ := FSet.ins s.expQ (s.height + x.timeout, c), expH := set s.expH c (s.height + x.timeout),
                 newQ := FSet.rem s.newQ (s.height, c), newH := del s.newH c }

end SM
