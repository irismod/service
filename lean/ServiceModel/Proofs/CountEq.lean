import ServiceModel.Proofs.LiftInv
import ServiceModel.Proofs.Reachable
/-!
# C12: the counters of the batch in flight are exact

Invariant `CEq`, between operations: for a context whose batch is still running, the number of its pending
requests plus the recorded number of responses is exactly the recorded number of requests. (`XInv.counts` is the
`≤` half; it also holds in the middle of an expiry, where requests stop being pending without a response.)
A batch is issued with all of its requests pending and no response, every accepted response moves exactly one
request from pending to answered, an expiry ends with the batch completed, and nothing else touches the three.
-/
namespace SM
open Map

/-- number of pending requests of context `c` -/
def cnt (A : FSet ReqId) (c : CtxId) : Nat := (A.filter (fun r => r.ctx = c)).length

def CEq (s : State) : Prop :=
  ∀ c x, get s.ctxs c = some x → x.bstate = .running → cnt s.activeI c + x.respN = x.reqN

theorem cnt_zero {A : FSet ReqId} (c : CtxId) (h : ∀ r, r ∈ A → r.ctx ≠ c) : cnt A c = 0 := by
  unfold cnt
  rw [List.length_eq_zero_iff, List.filter_eq_nil_iff]
  intro r hr
  simp only [decide_eq_true_eq]
  exact h r hr

theorem cnt_append (A B : FSet ReqId) (c : CtxId) : cnt (A ++ B) c = cnt A c + cnt B c := by
  unfold cnt; rw [List.filter_append, List.length_append]

theorem cnt_rem_other {A : FSet ReqId} {r : ReqId} {c : CtxId} (h : r.ctx ≠ c) : cnt (FSet.rem A r) c = cnt A c :=
  congrArg List.length (FSet.filter_rem_of_not A (decide_eq_false h))

theorem cnt_rem_same {A : FSet ReqId} {r : ReqId} (hn : A.Nodup) (hr : r ∈ A) :
    cnt (FSet.rem A r) r.ctx + 1 = cnt A r.ctx :=
  FSet.length_filter_rem A hn hr (decide_eq_true rfl)

theorem cnt_issued (c : CtxId) (x : Ctx) (h : Int) (el : List (Addr × Nat)) (i : Nat) (k : CtxId) :
    cnt (keys (issuedPairs c x h el i)) k = if k = c then el.length else 0 := by
  split
  · subst_vars
    unfold cnt
    rw [List.filter_eq_self.mpr (fun r hr => decide_eq_true (issuedPairs_ctx hr))]
    unfold keys
    rw [List.length_map, issuedPairs_length]
  · exact cnt_zero k fun r hr e => ‹¬ k = c› (e.symm.trans (issuedPairs_ctx hr))

theorem ceq_of_eq {s s' : State} (hk : CEq s) (h1 : s'.ctxs = s.ctxs) (h2 : s'.activeI = s.activeI) : CEq s' := by
  intro c y hy; rw [h1] at hy; rw [h2]; exact hk c y hy

/-- `CEq` for every context but `c`: what holds while the requests of a batch of `c` expire one by one -/
def CEqBut (c : CtxId) (s : State) : Prop :=
  ∀ k x, k ≠ c → get s.ctxs k = some x → x.bstate = .running → cnt s.activeI k + x.respN = x.reqN

theorem CEq.but {s : State} (hk : CEq s) (c : CtxId) : CEqBut c s := fun k x _ => hk k x

theorem ceqBut_local {s s' : State} {c : CtxId} (hk : CEqBut c s)
    (ho : ∀ k, k ≠ c → get s'.ctxs k = get s.ctxs k ∧ cnt s'.activeI k = cnt s.activeI k) : CEqBut c s' := by
  intro k x hkc hx hb
  obtain ⟨h1, h2⟩ := ho k hkc
  rw [h2]; exact hk k x hkc (h1 ▸ hx) hb

theorem ceq_local {s s' : State} {c : CtxId} (hk : CEqBut c s)
    (ho : ∀ k, k ≠ c → get s'.ctxs k = get s.ctxs k ∧ cnt s'.activeI k = cnt s.activeI k)
    (hc : ∀ y, get s'.ctxs c = some y → y.bstate = .running → cnt s'.activeI c + y.respN = y.reqN) : CEq s' := by
  intro k y hy hb
  by_cases h : k = c
  · subst h; exact hc y hy hb
  · exact ceqBut_local hk ho k y h hy hb

theorem ceq_rewrite {s s' : State} {c : CtxId} {y : Ctx} (hk : CEqBut c s) (hc : s'.ctxs = set s.ctxs c y)
    (ha : s'.activeI = s.activeI) (hy : y.bstate = .running → cnt s.activeI c + y.respN = y.reqN) : CEq s' := by
  refine ceq_local hk (fun k hk' => ⟨by rw [hc, get_set_other _ _ _ _ hk'.symm], by rw [ha]⟩) (fun z hz hb => ?_)
  rw [hc, get_set_same] at hz; cases hz
  rw [ha]; exact hy hb

theorem ceq_set {s s' : State} {c : CtxId} {x y : Ctx} (hk : CEq s) (hx : get s.ctxs c = some x)
    (hc : s'.ctxs = set s.ctxs c y) (ha : s'.activeI = s.activeI) (h1 : y.bstate = x.bstate) (h2 : y.respN = x.respN)
    (h3 : y.reqN = x.reqN) : CEq s' :=
  ceq_rewrite (hk.but c) hc ha fun hb => by rw [h2, h3]; exact hk c x hx (h1 ▸ hb)

theorem ceq_done {s s' : State} {c : CtxId} {y : Ctx} (hk : CEqBut c s) (hc : s'.ctxs = set s.ctxs c y)
    (ha : s'.activeI = s.activeI) (hy : y.bstate = .completed) : CEq s' :=
  ceq_rewrite hk hc ha fun hb => nomatch hy.symm.trans hb

theorem Msg.ceq {s s' : State} {op : Op} {e : List Effect} (h : Msg s op e s') (hi : Inv s) (hk : CEq s) : CEq s' := by
  cases h with
  | call | modcreate => exact ceq_done (hk.but _) rfl rfl rfl
  | pause hx | modpause hx | kill hx | modkill hx | start hx | modstart hx => exact ceq_set hk hx rfl rfl rfl rfl rfl
  | updatectx hx hu | modupdate hx hu =>
    obtain ⟨t, rfl⟩ := updThr_eq hu.thr
    exact ceq_set hk hx rfl rfl rfl rfl rfl
  | respondBad _ hx hact | respondGood _ hx hact =>
    -- exactly one request of the context, whose batch is running, moves from pending to answered
    obtain ⟨x0, hx0, hrun⟩ := hi.x.activeRunning _ hact
    cases hx.symm.trans hx0
    have hcnt := cnt_rem_same hi.x.activeNodup hact
    have := hk _ _ hx hrun
    refine ceq_local (hk.but _) (fun k hk' => ⟨get_set_other _ _ _ _ hk'.symm, cnt_rem_other hk'.symm⟩)
      (fun y hy hb => ?_)
    cases (get_set_same _ _ _).symm.trans hy
    unfold answered at hb ⊢
    split
    · rw [if_pos ‹_›] at hb; cases hb
    · dsimp only; omega
  | _ => exact ceq_of_eq hk rfl rfl

theorem Expire.ceqBut {s s' : State} {x : Ctx} {r : ReqId} {e : List Effect} (h : Expire s x r e s')
    (hk : CEqBut r.ctx s) : CEqBut r.ctx s' := by
  cases h <;> exact ceqBut_local hk fun _ hk' => ⟨rfl, cnt_rem_other hk'.symm⟩

/-- closing the batch restores the equation for the expired context: its batch is completed -/
theorem Close.ceq {s s' : State} {c : CtxId} {e : List Effect} (h : Close s c e s') (hk : CEqBut c s) : CEq s' := by
  cases h with
  | lost hx => exact ceq_local hk (fun _ _ => ⟨rfl, rfl⟩) (fun _ hy => nomatch hx.symm.trans hy)
  | remove =>
    exact ceq_local hk (fun _ hk' => ⟨get_del_other _ _ _ hk'.symm, rfl⟩) forall_del_same
  | again | park => exact ceq_done hk rfl rfl rfl

theorem New.ceq {s s' : State} {c : CtxId} {e : List Effect} (h : New s c e s') (hi : Inv s)
    (hdue : get s.newH c = some s.height) (hk : CEq s) : CEq s' := by
  cases h with
  | lost | drop => exact ceq_of_eq hk rfl rfl
  | finish =>
    exact ceq_local (hk.but c) (fun _ hk' => ⟨get_del_other _ _ _ hk'.symm, rfl⟩)
      forall_del_same
  | unfunded => exact ceq_done (hk.but c) rfl rfl rfl
  | skip hx => exact ceq_rewrite (hk.but c) rfl rfl fun _ => cnt_zero c (hi.x.dueFacts hx hdue).pending
  | @issue x bank' _ hx =>
    -- a context that is due has nothing pending
    have hno := (hi.x.dueFacts hx hdue).pending
    have hA := issueReqs_activeI { s with bank := bank' } c x (eligible s x) 0 (fun r hr hh => hno r hr hh.1)
    refine ceq_local (hk.but c) (fun k hk' => ⟨get_set_other _ _ _ _ hk'.symm, ?_⟩) (fun y hy _ => ?_)
    · rw [hA, cnt_append, cnt_issued, if_neg hk']; rfl
    · cases (get_set_same _ _ _).symm.trans hy
      rw [hA, cnt_append, cnt_issued, if_pos rfl]
      have := cnt_zero c hno
      dsimp only; omega

/-! Between the expired requests of one batch `CEq` fails for the expired context, so the expiry of a batch is taken as a
whole. -/

theorem expireBatch_ceq {s : State} {c : CtxId} (hnp : (expireBatch s c).panic = none) (hk : CEq s) :
    CEq (expireBatch s c).s := by
  rcases expireBatch_cases s c with ⟨_, he⟩ | ⟨_, _, he⟩ | ⟨x, _, _, _, rfl, ⟨_, _, he⟩ | ⟨hf, e, s', hc, he⟩⟩ <;> rw [he]
  · exact hk
  · exact ceq_of_eq hk rfl rfl
  · rw [he] at hnp; cases hnp
  · refine hc.ceq (foldH_lift (R := fun _ _ _ => True) (I := CEqBut c) (fun _ => trivial) (fun _ _ => trivial)
      (fun t r hr ht hp => ⟨trivial, ?_⟩) (hk.but c) hf).2
    obtain ⟨-, rfl, -⟩ := mem_pendingOf hr
    exact (Expire.of_nopanic hp).ceqBut ht

theorem newBatch_ceq {s : State} (hi : Inv s) (c : CtxId) (hk : CEq s) : CEq (newBatch s c).s :=
  newBatch_of (R := fun _ s' => CEq s') s c hk fun hdue h => h.ceq hi ((hi.x.newMirror _ _).mp hdue) hk

theorem endBlock_ceq {s : State} (hi : Inv s) (dt : Int) (hk : CEq s) : CEq (endBlock s dt).s :=
  endBlock_liftH (R := fun s _ s' => CEq s → CEq s') (fun _ hk => hk) (fun h1 h2 hk => h2 (h1 hk))
    (fun _ c hs => expireBatch_ceq (expireBatch_nopanic hs c)) (fun _ c hs => newBatch_ceq hs c)
    (fun _ _ _ hk => ceq_of_eq hk rfl rfl) hi dt hk

theorem step_ceq {s : State} (h : Inv s) (op : Op) (hk : CEq s) : CEq (step s op).1 :=
  step_of (R := fun _ s' => CEq s') op hk (fun _ hm => hm.ceq h hk) fun _ _ => endBlock_ceq h _ hk

/-- C12: in every reachable state, for every context whose batch is still running, pending + answered = issued -/
theorem ceq_reachable {cfg : Config} {p : Params} {h0 t0 : Int} (hc : CfgOK cfg p) {s : State}
    (hr : Reachable cfg p h0 t0 s) : CEq s := by
  induction hr with
  | init => intro c x hx; cases hx
  | @step s op hr' _ ih => exact step_ceq (reachable_inv hc hr') op ih

/-- `CEq` is kept by the handler alone as well (a step commits its result only if it is accepted) -/
theorem exec_ceq (s : State) (op : Op) (h : Inv s) (hw : WF s op) (hk : CEq s) : CEq (exec s op).1 :=
  exec_of (R := fun _ s' => CEq s') op hk (fun hm => hm.ceq h hk) fun _ => step_ceq h op hk

theorem expireTail_ctxs_active (s : State) (c : CtxId) (x1 : Ctx) :
    (expireTail s c x1).1.activeI = s.activeI ∧
    (∀ c2, c2 ≠ c → get (expireTail s c x1).1.ctxs c2 = get s.ctxs c2) ∧
    (∀ y, get (expireTail s c x1).1.ctxs c = some y → y = x1) := by
  have hset : ∀ c2, c2 ≠ c → get (set s.ctxs c x1) c2 = get s.ctxs c2 := fun c2 hc2 => get_set_other _ _ _ _ hc2.symm
  have hdel : ∀ c2, c2 ≠ c → get (del (set s.ctxs c x1) c) c2 = get s.ctxs c2 :=
    fun c2 hc2 => (get_del_other _ _ _ hc2.symm).trans (hset c2 hc2)
  have hsame : ∀ y, get (set s.ctxs c x1) c = some y → y = x1 := forall_set_same.mpr rfl
  have hgone : ∀ y, get (del (set s.ctxs c x1) c) c = some y → y = x1 := forall_del_same
  unfold expireTail
  simp only [cleanBatch, delCtx, setCtx, addNewQ, delExpQ]
  split
  · exact ⟨rfl, hdel, hgone⟩
  · split
    · exact ⟨rfl, hset, hsame⟩
    · exact ⟨rfl, hdel, hgone⟩
  · exact ⟨rfl, hset, hsame⟩

theorem issueBatch_activeI (s : State) (bank' : Bank) (c : CtxId) (x : Ctx) (el : List (Addr × Nat)) (ep : List Effect) :
    (issueBatch s bank' c x el ep).1.activeI = (issueReqs { s with bank := bank' } c x el 0).activeI := by
  rw [issueBatch_fst]

end SM
