import ServiceModel.Proofs.Atom
/-!
# The context operations do what `Msg` says

Each keeper function gets one outcome lemma (`pauseK_cases` …); the message form of an operation adds the authority
check of `ctxMsg` to it.
-/
namespace SM
open Map

variable {s : State} {c : CtxId} {cons : Addr} {x : Ctx} {out : Out}

theorem keeperAuth_none (hx : get s.ctxs c = some x) :
    keeperAuth s c x cons = none ↔ (x.mod ≠ "" → cons = x.cons) := by
  simp [keeperAuth, checkAuthority, hx]

theorem checkAuthority_none :
    checkAuthority s c cons true = none ↔ ∃ x, get s.ctxs c = some x ∧ cons = x.cons ∧ x.mod = "" := by
  unfold checkAuthority
  cases get s.ctxs c with
  | none => exact ⟨fun h => (nomatch h), fun ⟨_, h, _⟩ => (nomatch h)⟩
  | some x =>
    dsimp only
    constructor
    · intro h
      split at h; · cases h
      split at h; · cases h
      exact ⟨x, rfl, Decidable.not_not.mp ‹_›, Decidable.not_not.mp fun hm => ‹¬ (true = true ∧ _)› ⟨rfl, hm⟩⟩
    · rintro ⟨_, ⟨⟩, hc, hm⟩
      rw [if_neg (not_not_intro hc), if_neg fun h => h.2 hm]

theorem ctxMsg_cases {k : State → Out} (h : ctxMsg s c cons k = out) :
    Rejected s out ∨ k s = out ∧ ∃ x, get s.ctxs c = some x ∧ cons = x.cons ∧ x.mod = "" := by
  unfold ctxMsg at h
  split at h
  · subst h; exact .inl .mk
  · exact .inr ⟨h, checkAuthority_none.mp ‹_›⟩

/-- the model queues a context by a conditional on the state, `created` and `started` by conditionals in the fields -/
theorem ite_addNewQ (p : Prop) [Decidable p] (s : State) (c : CtxId) (h : Int) :
    (if p then addNewQ s c h else s) =
      { s with newQ := if p then FSet.ins s.newQ (h, c) else s.newQ, newH := if p then set s.newH c h else s.newH } := by
  split <;> rfl

theorem pauseK_cases (h : pauseK s c cons = out) :
    Rejected s out ∨ ∃ x, get s.ctxs c = some x ∧ (x.mod ≠ "" → cons = x.cons) ∧ x.rep = true ∧ x.state = .running ∧
      out = ({ s with ctxs := set s.ctxs c { x with state := .paused } }, .ok, []) := by
  unfold pauseK at h
  split at h; · subst h; exact .inl .mk
  split at h; · subst h; exact .inl .mk
  split at h; · subst h; exact .inl .mk
  split at h; · subst h; exact .inl .mk
  rename_i x hx _ ha hrep hrun
  exact .inr ⟨x, hx, (keeperAuth_none hx).mp ha, by simpa using hrep, Decidable.not_not.mp hrun, h.symm⟩

theorem startK_cases (h : startK s c cons = out) :
    Rejected s out ∨ ∃ x, get s.ctxs c = some x ∧ (x.mod ≠ "" → cons = x.cons) ∧ x.state = .paused ∧
      out = (started s c x, .ok, []) := by
  unfold startK at h
  split at h; · subst h; exact .inl .mk
  split at h; · subst h; exact .inl .mk
  split at h; · subst h; exact .inl .mk
  rename_i x hx _ ha hp
  exact .inr ⟨x, hx, (keeperAuth_none hx).mp ha, Decidable.not_not.mp hp,
    h.symm.trans (congrArg (fun t => (t, Res.ok, [])) (ite_addNewQ _ _ _ _))⟩

theorem killK_cases (h : killK s c cons = out) :
    Rejected s out ∨ ∃ x, get s.ctxs c = some x ∧ (x.mod ≠ "" → cons = x.cons) ∧ x.rep = true ∧
      out = ({ s with ctxs := set s.ctxs c { x with state := .completed } }, .ok, []) := by
  unfold killK at h
  split at h; · subst h; exact .inl .mk
  split at h; · subst h; exact .inl .mk
  split at h; · subst h; exact .inl .mk
  rename_i x hx _ ha hrep
  exact .inr ⟨x, hx, (keeperAuth_none hx).mp ha, by simpa using hrep, h.symm⟩

variable {provs : List Addr} {thr : Nat} {cap : Option Nat} {timeout : Int} {freq : Nat} {total : Int}

theorem updateK_cases (h : updateK s c cons provs thr cap timeout freq total = out) :
    Rejected s out ∨ ∃ x x1, get s.ctxs c = some x ∧ (x.mod ≠ "" → cons = x.cons) ∧
      UpdateOK s x x1 provs thr cap timeout freq total ∧
      out = ({ s with ctxs := set s.ctxs c (updFields x1 provs cap (effTimeout x timeout) (effFreq x freq) total) },
        .ok, []) := by
  unfold updateK at h
  split at h; · subst h; exact .inl .mk
  split at h; · subst h; exact .inl .mk
  split at h; · subst h; exact .inl .mk
  split at h; · subst h; exact .inl .mk
  split at h; · subst h; exact .inl .mk
  split at h; · subst h; exact .inl .mk
  split at h; · subst h; exact .inl .mk
  split at h; · subst h; exact .inl .mk
  rename_i x hx _ ha hlive _ x1 hthr hcap htmo hfreq htot
  exact .inr ⟨x, x1, hx, (keeperAuth_none hx).mp ha, ⟨hlive, hthr, hcap, Int.not_lt.mp htmo, hfreq, htot⟩, h.symm⟩

variable {id : CtxId} {mod : ModName} {svc : SvcName} {super rep inputOk running : Bool}

theorem createCtx_cases
    (h : createCtx s id mod svc provs cons cap timeout super rep freq total inputOk running thr = out) :
    Rejected s out ∨ ∃ capv, CreateOK s mod svc provs cap capv timeout rep freq total inputOk thr ∧
      out = (created s id (newCtxRec mod svc provs cons capv timeout super rep freq total running thr) running, .ok, []) := by
  unfold createCtx at h
  split at h; · subst h; exact .inl .mk
  split at h; · subst h; exact .inl .mk
  split at h; · subst h; exact .inl .mk
  split at h; · subst h; exact .inl .mk
  split at h; · subst h; exact .inl .mk
  split at h; · subst h; exact .inl .mk
  rename_i _ hdef hin _ capv hpre hcapv htmo
  have hdef := Option.isNone_eq_false_iff.mp ((Bool.not_eq_true _).mp hdef)
  exact .inr ⟨capv, ⟨hpre, hdef, by simpa using hin, rfl, hcapv, Int.not_lt.mp htmo⟩,
    h.symm.trans (congrArg (fun t => (t, Res.ok, [])) (ite_addNewQ _ _ _ _))⟩

theorem modpause_msg (h : pauseK s c cons = out) : Handled s (.modpause c cons) out := by
  obtain hr | ⟨x, hx, hc, hrep, hrun, rfl⟩ := pauseK_cases h
  · exact .inl hr
  · exact .acc (.modpause hx hrep hrun hc)

theorem pause_msg (h : ctxMsg s c cons (fun s => pauseK s c cons) = out) : Handled s (.pause c cons) out := by
  obtain hr | ⟨hk, x, hx, hc, hm⟩ := ctxMsg_cases h
  · exact .inl hr
  obtain hr | ⟨_, hx', -, hrep, hrun, rfl⟩ := pauseK_cases hk
  · exact .inl hr
  · cases hx.symm.trans hx'; exact .acc (.pause hx hrep hrun hc hm)

theorem modstart_msg (h : startK s c cons = out) : Handled s (.modstart c cons) out := by
  obtain hr | ⟨x, hx, hc, hp, rfl⟩ := startK_cases h
  · exact .inl hr
  · exact .acc (.modstart hx hp hc)

theorem start_msg (h : ctxMsg s c cons (fun s => startK s c cons) = out) : Handled s (.start c cons) out := by
  obtain hr | ⟨hk, x, hx, hc, hm⟩ := ctxMsg_cases h
  · exact .inl hr
  obtain hr | ⟨_, hx', -, hp, rfl⟩ := startK_cases hk
  · exact .inl hr
  · cases hx.symm.trans hx'; exact .acc (.start hx hp hc hm)

theorem modkill_msg (h : killK s c cons = out) : Handled s (.modkill c cons) out := by
  obtain hr | ⟨x, hx, hc, hrep, rfl⟩ := killK_cases h
  · exact .inl hr
  · exact .acc (.modkill hx hrep hc)

theorem kill_msg (h : ctxMsg s c cons (fun s => killK s c cons) = out) : Handled s (.kill c cons) out := by
  obtain hr | ⟨hk, x, hx, hc, hm⟩ := ctxMsg_cases h
  · exact .inl hr
  obtain hr | ⟨_, hx', -, hrep, rfl⟩ := killK_cases hk
  · exact .inl hr
  · cases hx.symm.trans hx'; exact .acc (.kill hx hrep hc hm)

theorem modupdate_msg (h : updateK s c cons provs thr cap timeout freq total = out) :
    Handled s (.modupdate c cons provs thr cap timeout freq total) out := by
  obtain hr | ⟨x, x1, hx, hc, hu, rfl⟩ := updateK_cases h
  · exact .inl hr
  · exact .acc (.modupdate hx hu hc)

theorem updatectx_msg (h : ctxMsg s c cons (fun s => updateK s c cons provs 0 cap timeout freq total) = out) :
    Handled s (.updatectx c cons provs cap timeout freq total) out := by
  obtain hr | ⟨hk, x, hx, hc, hm⟩ := ctxMsg_cases h
  · exact .inl hr
  obtain hr | ⟨_, x1, hx', -, hu, rfl⟩ := updateK_cases hk
  · exact .inl hr
  · cases hx.symm.trans hx'; exact .acc (.updatectx hx hu hc hm)

theorem modcreate_msg (h : createCtx s id mod svc provs cons cap timeout super rep freq total inputOk running thr = out) :
    Handled s (.modcreate id mod svc provs cons cap timeout super rep freq total inputOk running thr) out := by
  obtain hr | ⟨capv, hc, rfl⟩ := createCtx_cases h
  · exact .inl hr
  · exact .acc (.modcreate hc)

theorem call_msg
    (h : (if s.cfg.modsvc = some svc then panicOut s "module-service call: outside the model"
      else createCtx s id "" svc provs cons cap timeout super rep freq total inputOk true 0) = out) :
    Handled s (.call id svc provs cons cap timeout super rep freq total inputOk) out := by
  split at h
  · subst h; exact .panic (.modsvc ‹_›)
  · obtain hr | ⟨capv, hc, rfl⟩ := createCtx_cases h
    · exact .inl hr
    · exact .acc (.call ‹_› hc)

end SM
