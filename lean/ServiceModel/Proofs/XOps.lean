import ServiceModel.Proofs.XWorld
/-!
`XInv` under the context operations (create, start, update). Pausing and killing a context are plain instances of
`XInv.setCtx`.
-/
namespace SM
open Map

variable {cfg : Config} {height : Int} {ctxs : Map CtxId Ctx} {expQ newQ : FSet (Int × CtxId)}
  {expH newH : Map CtxId Int} {usedIds : List CtxId} {reqs : Map ReqId Req}
  {activeB : FSet (SvcName × Addr × Int × ReqId)} {activeI : FSet ReqId} {resps : Map ReqId Resp}

theorem XInv.start {c : CtxId} {x : Ctx}
    (h : XInv cfg height ctxs expQ newQ expH newH usedIds reqs activeB activeI resps) (hx : get ctxs c = some x) :
    XInv cfg height (set ctxs c { x with state := .running }) expQ
      (if (get expH c).isNone ∧ (get newH c).isNone then FSet.ins newQ (height, c) else newQ) expH
      (if (get expH c).isNone ∧ (get newH c).isNone then set newH c height else newH)
      usedIds reqs activeB activeI resps := by
  by_cases hq : (get expH c).isNone ∧ (get newH c).isNone
  · rw [if_pos hq, if_pos hq]
    exact h.setCtxAddNew hx ⟨rfl, rfl, rfl, rfl, rfl, rfl⟩ (h.ctxWF c x hx) (Int.le_refl _)
      (Option.isNone_iff_eq_none.mp hq.2) (Option.isNone_iff_eq_none.mp hq.1)
  · rw [if_neg hq, if_neg hq]
    refine h.setCtx hx ⟨rfl, rfl, rfl, rfl, rfl, rfl⟩ (h.ctxWF c x hx) fun _ => ?_
    cases hv : get newH c with
    | some _ => exact .inl rfl
    | none =>
      cases hw : get expH c with
      | some _ => exact .inr rfl
      | none => rw [hv, hw] at hq; exact absurd ⟨rfl, rfl⟩ hq

theorem XInv.update {c : CtxId} {x x1 : Ctx} {provs : List Addr} {thr : Nat} {cap : Option Nat} {timeout : Int} {freq : Nat}
    {total : Int} (h : XInv cfg height ctxs expQ newQ expH newH usedIds reqs activeB activeI resps)
    (hx : get ctxs c = some x) (hthr : updThr x provs thr cap timeout freq total = .ok x1)
    (hfreq : ¬ (effTimeout x timeout < 0 ∨ (effFreq x freq : Int) < effTimeout x timeout)) :
    XInv cfg height (set ctxs c (updFields x1 provs cap (effTimeout x timeout) (effFreq x freq) total)) expQ newQ expH newH
      usedIds reqs activeB activeI resps := by
  obtain ⟨t, rfl⟩ := updThr_eq hthr
  have hwf := h.ctxWF c x hx
  refine h.setCtx hx ⟨rfl, rfl, rfl, rfl, rfl, rfl⟩ ?_ fun hrun => h.runningQ c x hx hrun
  have hte : 1 ≤ effTimeout x timeout := by
    unfold effTimeout at hfreq ⊢
    split
    · exact hwf.1
    · split at hfreq <;> omega
  have hfe : effTimeout x timeout ≤ (effFreq x freq : Int) := by omega
  unfold ctxOK updFields
  dsimp only
  rw [if_pos (show effTimeout x timeout > 0 by omega), if_pos (show effFreq x freq > 0 by omega)]
  exact ⟨hte, fun _ => hfe⟩

theorem newCtxRec_ok {mod : ModName} {svc : SvcName} {provs : List Addr} {cons : Addr} {capv : Nat} {timeout : Int}
    {super rep : Bool} {freq : Nat} {total : Int} {running : Bool} {thr : Nat}
    (h : 1 ≤ timeout ∧ (rep = true → freq = 0 ∨ timeout ≤ (freq : Int))) :
    ctxOK (newCtxRec mod svc provs cons capv timeout super rep freq total running thr) := by
  unfold ctxOK newCtxRec
  dsimp only
  refine ⟨h.1, fun hr => ?_⟩
  simp only [hr, if_true]
  rcases h.2 hr with hf | hf
  · simp only [hf, if_true]; omega
  · by_cases hf0 : freq = 0
    · simp only [hf0, if_true]; omega
    · simp only [hf0, if_false]; exact hf

theorem XInv.create {c : CtxId} {x : Ctx} {running : Bool}
    (h : XInv cfg height ctxs expQ newQ expH newH usedIds reqs activeB activeI resps)
    (hfresh : c ∉ usedIds) (hwf : ctxOK x) (hcons : ¬ isModAcct cfg x.cons) (hbs : x.bstate = .completed)
    (hst : x.state = .running → running = true) :
    XInv cfg height (set ctxs c x) expQ (if running then FSet.ins newQ (height, c) else newQ) expH
      (if running then set newH c height else newH) (c :: usedIds) reqs activeB activeI resps := by
  cases running with
  | false => exact h.newCtx hfresh hwf hcons (fun hr => nomatch hst hr) hbs
  | true =>
    -- store the record as paused, then set it running together with its queue entry
    have base := h.newCtx (x := { x with state := .paused }) hfresh hwf hcons nofun hbs
    have hnew : get newH c = none :=
      Option.eq_none_iff_forall_ne_some.mpr fun hh hn => hfresh (h.used c (h.newFuture c hh hn).2)
    have hexp : get expH c = none :=
      Option.eq_none_iff_forall_ne_some.mpr fun hh hn => hfresh (h.used c (h.expFuture c hh hn).2)
    have step := base.setCtxAddNew (x' := x) (Map.get_set_same _ _ _) ⟨rfl, rfl, rfl, rfl, rfl, rfl⟩ hwf (Int.le_refl _)
      hnew hexp
    rwa [Map.set_set] at step

end SM
