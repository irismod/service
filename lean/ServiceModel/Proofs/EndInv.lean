import ServiceModel.Proofs.BWorld
import ServiceModel.Proofs.MWorld
import ServiceModel.Proofs.Bound
import ServiceModel.Proofs.XRespond
import ServiceModel.Proofs.XEndBlock
import ServiceModel.Proofs.IssueSpec
import ServiceModel.Proofs.EndBlockExpire
/-!
# The work of the end of a block keeps the invariants: `Expire.inv`, `Close.inv`, `New.inv`
-/
namespace SM
open Map

/-- the escrow account holds the fee of a pending request and a slash leaves the escrow alone, so the refund that
    follows the slash cannot fail -/
theorem refund_succeeds {s s1 : State} {r : ReqId} {q : Req} {svc : SvcName} {p : Addr} {e : List Effect} (hi : Inv s)
    (hq : get s.reqs r = some q) (hact : r ∈ s.activeI) (hs : Slash s r svc p e s1) (cons : Addr) :
    (bankSend s1.bank s.cfg.escrow cons q.fee).isSome :=
  (bankSend_some_iff ..).mpr (by rw [hs.escrow hi.static, ← feeAt_of_get hq]; exact hi.m.fee_le hact)

theorem Expire.inv {s s' : State} {x : Ctx} {r : ReqId} {e : List Effect} (h : Expire s x r e s') (hi : Inv s)
    (hx : get s.ctxs r.ctx = some x) (hact : r ∈ s.activeI) : Inv s' := by
  have hX : ∀ {q}, get s.reqs r = some q → XInv s.cfg s.height s.ctxs s.expQ s.newQ s.expH s.newH s.usedIds s.reqs
      (FSet.rem s.activeB (x.svc, q.prov, q.expH, r)) (FSet.rem s.activeI r) s.resps := fun {q} hq => by
    have := XInv.deactivate (x' := x) (resps' := s.resps) hi.x hq hx hact rfl rfl rfl (hi.x.ctxWF _ x hx) rfl rfl
      (.inl ⟨hi.x.running hact hx, Nat.le_succ _⟩) (fun _ h => .inr h)
    rwa [Map.set_get_same _ _ _ hx] at this
  cases h with
  | lost hq => have := hi.x.activeReq r hact; rw [hq] at this; cases this
  | super hq hsup =>
    obtain ⟨y, hy, _, hfree⟩ := hi.bound r _ hq
    cases hx.symm.trans hy
    exact { hi with x := hX hq, m := hi.m.refundReq hi.x.activeNodup hact (by rw [feeAt_of_get hq, hfree hsup]; rfl) }
  | paid hq _ hs hb =>
    have hcons := hi.x.ctxCons _ x hx
    exact { hi with x := hX hq, bound := hi.bound.bindingsGrow hs.keys, b := hs.refundB hi.static hcons hb hi.b
                    m := hs.refundM hi.static hcons hb hi.m hi.x.activeNodup hq hact }
  | unpaid hq _ hs hb =>
    have := refund_succeeds hi hq hact hs x.cons
    rw [hb] at this; cases this

/-- every request record of a stored context belongs to its current batch, so `cleanBatch` removes exactly the records
    of the context -/
theorem cleanBatch_ctx {s : State} {c : CtxId} {x : Ctx} (hi : InvX s) (hx : get s.ctxs c = some x) (r : ReqId) :
    get (cleanBatch s c x.batch).reqs r = (if r.ctx = c then none else get s.reqs r) ∧
    get (cleanBatch s c x.batch).resps r = (if r.ctx = c then none else get s.resps r) := by
  rw [cleanBatch_reqs, cleanBatch_resps]
  by_cases hc : r.ctx = c
  · rw [if_pos hc, if_pos hc]
    cases hq : get s.reqs r with
    | none =>
      cases hp : get s.resps r with
      | none => simp
      | some p => have := (hi.respReq r (by rw [hp]; rfl)).1; rw [hq] at this; cases this
    | some q =>
      obtain ⟨y, hy, hb, -⟩ := hi.reqCtx r q hq
      rw [hc, hx] at hy; cases hy
      exact ⟨if_pos ⟨hc, hb⟩, if_pos ⟨rfl, hc, hb⟩⟩
  · rw [if_neg hc, if_neg hc, if_neg (fun h => hc h.1), if_neg (fun h => hc h.2.1)]
    exact ⟨rfl, rfl⟩

/-- Through `XInv.expireCore`: the records of the batch go and the context is stored with the batch completed and, on
    the way, not running; then it is removed, queued again or left paused. -/
theorem Close.inv {s s' : State} {c : CtxId} {e : List Effect} (h : Close s c e s') (hi : Inv s)
    (hdue : (s.height, c) ∈ s.expQ) (hno : ∀ r ∈ s.activeI, r.ctx ≠ c) : Inv s' := by
  have hexp := (hi.x.expMirror s.height c).mp hdue
  obtain ⟨x, hx⟩ := Option.isSome_iff_exists.mp (hi.x.expFuture c _ hexp).2
  have hnew : get s.newH c = none := (hi.x.single c).resolve_right (by rw [hexp]; simp)
  have hwf := hi.x.ctxWF c x hx
  have hreqs := fun r => (cleanBatch_ctx hi.x hx r).1
  have hsub : ∀ r q, get (cleanBatch s c x.batch).reqs r = some q → get s.reqs r = some q ∧ r.ctx ≠ c := fun r q hq => by
    rw [hreqs] at hq; split at hq
    · cases hq
    · exact ⟨hq, ‹_›⟩
  have hcore : ∀ st, st ≠ .running →
      XInv s.cfg s.height (set s.ctxs c { x with bstate := .completed, state := st }) (FSet.rem s.expQ (s.height, c)) s.newQ
        (del s.expH c) s.newH s.usedIds (cleanBatch s c x.batch).reqs s.activeB s.activeI (cleanBatch s c x.batch).resps :=
    fun st hst => XInv.expireCore hi.x hx hexp rfl rfl rfl hwf rfl hst
      (fun r => ⟨fun hr => ⟨hr, hno r hr⟩, fun hr => hr.1⟩)
      (fun t => ⟨fun ht => ⟨ht, hno _ ((hi.x.activeMirror t.1 t.2.1 t.2.2.1 t.2.2.2).mp ht).1⟩, fun ht => ht.1⟩)
      hi.x.activeNodup (fun _ _ => rfl) hreqs (fun r => (cleanBatch_ctx hi.x hx r).2)
  have hM : MInv (balOf s.bank.bal s.cfg.escrow) (cleanBatch s c x.batch).reqs s.activeI s.earned s.ownerEarned s.owner :=
    hi.m.reqsIrrelevant (fun r hr => by rw [hreqs, if_neg (hno r hr)])
  have hB := BoundInv.reqsSub hi.bound (fun r q hq => (hsub r q hq).1)
  cases h with
  | lost hx' => rw [hx] at hx'; cases hx'
  | remove hx' =>
    cases hx.symm.trans hx'
    -- `expireCore` stores a record that is not running; the removal forgets which
    have := (hcore .paused nofun).delCtx (c := c) hnew (get_del_same _ _) (fun r q hq => (hsub r q hq).2)
    rw [Map.del_set] at this
    exact { hi with x := this, m := hM
                    bound := hB.ctxsOther (c := c) (fun r q hq => (hsub r q hq).2)
                      fun c2 hc2 => get_del_other _ _ _ (Ne.symm hc2) }
  | again hx' _ hmore =>
    cases hx.symm.trans hx'
    have := (hcore .paused nofun).setCtxAddNew (c := c) (x' := { x with bstate := .completed })
      (hh := s.height - x.timeout + x.freq) (get_set_same _ _ _) ⟨rfl, rfl, rfl, rfl, rfl, rfl⟩ hwf
      (by have := hwf.2 hmore.1; omega) hnew (get_del_same _ _)
    rw [Map.set_set] at this
    exact { hi with x := this, m := hM, bound := hB.setCtx hx ⟨rfl, rfl⟩ }
  | park hx' hp =>
    cases hx.symm.trans hx'
    exact { hi with x := hcore x.state (by rw [hp]; nofun), m := hM, bound := hB.setCtx hx ⟨rfl, rfl⟩ }

/-- a batch starts for a due context whose consumer has paid; `el` is empty for a skipped batch -/
theorem Inv.issue {s : State} {bank' : Bank} {c : CtxId} {x : Ctx} {el : List (Addr × Nat)} (hi : Inv s)
    (hx : get s.ctxs c = some x) (hdue : get s.newH c = some s.height)
    (hel : ∀ p price, (p, price) ∈ el → (get s.bindings (x.svc, p)).isSome)
    (hdep : balOf bank'.bal s.cfg.deposit = balOf s.bank.bal s.cfg.deposit)
    (hesc : balOf bank'.bal s.cfg.escrow = balOf s.bank.bal s.cfg.escrow + if x.super then 0 else sumPrices el) :
    Inv { s with
      bank := bank', reqs := (issueReqs { s with bank := bank' } c x el 0).reqs,
      activeB := (issueReqs { s with bank := bank' } c x el 0).activeB,
      activeI := (issueReqs { s with bank := bank' } c x el 0).activeI,
      ctxs := set s.ctxs c (nextBatch x el.length),
      expQ := FSet.ins s.expQ (s.height + x.timeout, c), expH := set s.expH c (s.height + x.timeout),
      newQ := FSet.rem s.newQ (s.height, c), newH := del s.newH c } := by
  obtain ⟨-, -, hnoreq, hnoact⟩ := hi.x.dueFacts hx hdue
  let pairs := issuedPairs c x s.height el 0
  have hreqs : ∀ r, get (issueReqs { s with bank := bank' } c x el 0).reqs r =
      match get pairs r with | some q => some q | none => get s.reqs r := issueReqs_reqs _ c x el 0
  have hAI : (issueReqs { s with bank := bank' } c x el 0).activeI = s.activeI ++ keys pairs :=
    issueReqs_activeI { s with bank := bank' } c x el 0 (fun r hr hh => hnoact r hr hh.1)
  have hnew : ∀ r, r ∈ keys pairs → ∃ q, (r, q) ∈ pairs ∧ get pairs r = some q := fun r hr => by
    obtain ⟨⟨r, q⟩, hm, rfl⟩ := List.mem_map.mp hr
    exact ⟨q, hm, mem_pairs_get hm⟩
  have hctx : ∀ r, r ∈ keys pairs → r.ctx = c := fun _ => issuedPairs_ctx
  refine { hi with b := hi.b.sameBal hdep, x := ?_, m := ?_, bound := ?_ }
  · -- `XInv.startBatch` asks for the new ids and a function giving their records
    refine XInv.startBatch (keys pairs) (fun r => (get pairs r).getD ⟨"", 0, 0, 0⟩) hi.x hx hdue
      rfl rfl rfl rfl rfl ((issuedPairs_length c x s.height el 0).symm.trans (List.length_map _).symm) rfl rfl rfl
      ?_ ?_ ?_ ?_ ?_ ?_ ?_
    · intro r hr
      obtain ⟨q, hm, hg⟩ := hnew r hr
      obtain ⟨_, _, _, -, rfl, rfl⟩ := mem_issuedPairs hm
      rw [hg]
      exact ⟨rfl, rfl, rfl⟩
    · intro r
      rw [hreqs r]
      by_cases hm : r ∈ keys pairs
      · obtain ⟨q, -, hg⟩ := hnew r hm
        rw [if_pos hm, hg]; rfl
      · rw [if_neg hm, (get_none_iff pairs r).mpr hm]
    · intro r; rw [hAI, List.mem_append]
    · rw [hAI, List.nodup_append]
      exact ⟨hi.x.activeNodup, issuedPairs_nodup c x s.height el 0, fun a ha b hb e => hnoact a ha (e ▸ hctx b hb)⟩
    · rw [hAI, List.filter_append, List.filter_eq_nil_iff.mpr (fun r hr => by simpa using hnoact r hr),
        List.filter_eq_self.mpr (fun r hr => by simpa using hctx r hr)]
      rfl
    · intro c2 hc2
      have : (keys pairs).filter (fun r => decide (r.ctx = c2)) = [] :=
        List.filter_eq_nil_iff.mpr (fun r hr => by rw [decide_eq_true_eq, hctx r hr]; exact fun e => hc2 e.symm)
      rw [hAI, List.filter_append, this, List.append_nil]
    · intro t
      rw [issueReqs_activeB]
      refine or_congr_right ⟨fun ht => ?_, fun ⟨r, hr, ht⟩ => ?_⟩
      · obtain ⟨⟨r, q⟩, hm, rfl⟩ := List.mem_map.mp ht
        exact ⟨r, List.mem_map.mpr ⟨(r, q), hm, rfl⟩, by rw [mem_pairs_get hm]; rfl⟩
      · obtain ⟨q, hm, hg⟩ := hnew r hr
        rw [hg] at ht
        exact List.mem_map.mpr ⟨(r, q), hm, ht.symm⟩
  · refine hi.m.issue (keys pairs) hAI (fun r hr => ?_) ?_
    · rw [hreqs, (get_none_iff pairs r).mpr fun hk => hnoact r hr (hctx r hk)]
    · rw [hesc, feeSum_keys _ pairs (fun r q hm => by rw [hreqs r, mem_pairs_get hm]), issuedPairs_fees]
  · intro r q hq
    rw [hreqs r] at hq
    cases hg : get pairs r with
    | some q2 =>
      rw [hg] at hq; cases hq
      obtain ⟨_, _, pr, hk, rfl, rfl⟩ := mem_issuedPairs (mem_of_get _ _ _ hg)
      exact ⟨nextBatch x el.length, get_set_same _ _ _, hel _ pr (List.mem_of_getElem? hk), fun hs => if_pos hs⟩
    | none =>
      rw [hg] at hq
      obtain ⟨y, hy, hb⟩ := hi.bound r q hq
      exact ⟨y, by rw [← hy]; exact get_set_other _ _ _ _ (fun e => hnoreq r q hq e.symm), hb⟩

theorem New.inv {s s' : State} {c : CtxId} {e : List Effect} (h : New s c e s') (hi : Inv s)
    (hdue : (s.height, c) ∈ s.newQ) : Inv s' := by
  have hnew := (hi.x.newMirror s.height c).mp hdue
  cases h with
  | lost hx => have := (hi.x.newFuture c _ hnew).2; rw [hx] at this; cases this
  | finish hx =>
    exact { hi with x := hi.x.finishNew hx hnew
                    bound := hi.bound.ctxsOther (c := c) (hi.x.dueFacts hx hnew).reqs
                      fun c2 hc2 => get_del_other _ _ _ (Ne.symm hc2) }
  | drop hx hnr =>
    exact { hi with x := hi.x.dropNew hx hnew hnr }
  | @issue x _ _ hx _ _ _ hpay =>
    have hcons : ¬ isModAcct s.cfg x.cons := hi.x.ctxCons c x hx
    rcases hpay with ⟨hsup, rfl, -⟩ | ⟨hsup, hb, -⟩
    · exact hi.issue hx hnew (eligible_bound s x) rfl (by rw [if_pos hsup]; rfl)
    · exact hi.issue hx hnew (eligible_bound s x)
        (send_keeps hb (fun e => hcons (.inr (.inl e.symm))) (fun e => hi.static.ed e.symm))
        (by rw [hsup]; exact bankSend_dst hb (fun e => hcons (.inl e)))
  | unfunded hx =>
    exact { hi with x := hi.x.pauseNew hx hnew rfl, bound := hi.bound.setCtx hx ⟨rfl, rfl⟩ }
  | skip hx => exact hi.issue (el := []) hx hnew (fun _ _ hm => nomatch hm) rfl (by simp [sumPrices])

end SM
