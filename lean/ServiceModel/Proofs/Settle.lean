import ServiceModel.Proofs.EndInv
import ServiceModel.Proofs.NoSlash
/-!
# Why a settlement cannot fail where the invariants hold, and what every accepted response does
-/
namespace SM

theorem frac_le {f : Nat} (n : Nat) (h : f ≤ decUnit) : n * f / decUnit ≤ n :=
  Nat.div_le_of_le_mul (Nat.mul_comm n decUnit ▸ Nat.mul_le_mul_left n h)

/-- The amount is at most the recorded deposit, which the deposit account holds, and the minimum deposit of an
    available binding does not overflow. -/
theorem slash_succeeds {s : State} (hst : InvStatic s) (hB : InvB s) (r : ReqId) (svc : SvcName) (pv : Addr) :
    ∃ s1 e1, slash s r svc pv = .done s1 e1 := by
  unfold slash
  cases hb : Map.get s.bindings (svc, pv) with
  | none => exact ⟨_, _, rfl⟩
  | some b =>
    have hamt := frac_le b.deposit hst.slash_le
    have hbal : b.deposit ≤ balOf s.bank.bal s.cfg.deposit :=
      hB.backed ▸ Map.le_total_of_get (fun b : Binding => b.deposit) hb
    unfold bankBurn
    dsimp only
    rw [if_neg (by omega), if_neg (by omega)]; dsimp only
    by_cases hav : b.avail = true
    · obtain ⟨pr, md, hpr, hmd, _⟩ := hB.minDep _ b hb hav
      rw [if_pos hav, storedPricing_of_get hpr, hmd]
      exact ⟨_, _, rfl⟩
    · rw [if_neg hav]; exact ⟨_, _, rfl⟩

theorem expireReq_expire {s : State} (h : Inv s) (x : Ctx) (r : ReqId) :
    (expireReq x s r).panic = none ∧ Expire s x r (expireReq x s r).effs (expireReq x s r).s :=
  (expireReq_atom x s r).resolve_left fun ⟨⟨q, _, _, hov⟩, _⟩ => by
    obtain ⟨_, _, hd⟩ := slash_succeeds h.static h.b r x.svc q.prov
    rw [hd] at hov; cases hov

theorem settle_succeeds {s : State} (h : Inv s) (r : ReqId) (q : Req) (svc : SvcName) (cons : Addr) (out : OutKind)
    (hq : Map.get s.reqs r = some q) (hact : r ∈ s.activeI) : ∃ res, settle s r svc cons q q.prov out = .ok res := by
  unfold settle
  split
  · -- malformed output: the slash, then the refund
    obtain ⟨s1, e1, hs⟩ := slash_succeeds h.static h.b r svc q.prov
    have hcfg : s1.cfg = s.cfg := by rw [(Slash.of_done hs).frame]
    rw [hs]; dsimp only
    obtain ⟨bank', hb⟩ := Option.isSome_iff_exists.mp (hcfg ▸ refund_succeeds h hq hact (.of_done hs) cons)
    rw [hb]; exact ⟨_, rfl⟩
  · -- any other: the tax, which is at most the fee, which the escrow holds, to the collector
    have htax := frac_le q.fee (Nat.le_of_lt h.static.tax_lt)
    obtain ⟨bank', hb⟩ := bankSend_of_le s.cfg.collector (Nat.le_trans htax (feeAt_of_get hq ▸ h.m.fee_le hact))
    unfold addEarned; dsimp only
    rw [hb]; dsimp only
    rw [if_neg (Nat.not_lt.mpr htax)]
    exact ⟨_, rfl⟩

/-- the `lost`, `unpaid` and refused-slash outcomes of `Expire` do not occur where the invariants hold -/
theorem expiry_settles {s : State} (h : Inv s) {x : Ctx} {r : ReqId} {q : Req} (hq : Map.get s.reqs r = some q)
    (hact : r ∈ s.activeI) :
    x.super = true ∧ (expireReq x s r).effs = [] ∨
    x.super = false ∧ ∃ n, (expireReq x s r).effs =
      .slash r q.prov n :: (if q.fee = 0 then [] else [.transfer s.cfg.escrow x.cons q.fee]) := by
  have ha := (expireReq_expire h x r).2
  generalize (expireReq x s r).effs = e, (expireReq x s r).s = s' at ha
  cases ha with
  | lost hq' => rw [hq] at hq'; cases hq'
  | super _ hs => exact .inl ⟨hs, rfl⟩
  | paid hq' hsup hs =>
    rw [hq] at hq'; cases hq'
    cases hs with
    | unbound | burnt => exact .inr ⟨hsup, _, rfl⟩
    | refused hr =>
      obtain ⟨_, _, hd⟩ := slash_succeeds h.static h.b r x.svc q.prov
      rw [hd] at hr; cases hr
  | unpaid hq' _ hs hb =>
    rw [hq] at hq'; cases hq'
    have := refund_succeeds h hq hact hs x.cons
    rw [hb] at this; cases this

/-- What every accepted response `respond s r pv code out` does, whatever its output: `e1` is the settlement, which only
    moves or burns coins; the completion of the batch follows if this was its last response. -/
structure Answered (s : State) (r : ReqId) (pv : Addr) (code : Nat) (out : OutKind) (q : Req) (x : Ctx)
    (e1 : List Effect) : Prop where
  req : Map.get s.reqs r = some q
  ctx : Map.get s.ctxs r.ctx = some x
  prov : pv = q.prov
  pending : r ∈ s.activeI
  money : ∀ a ∈ e1, a.isMoney = true
  effs : (respond s r pv code out).2.2 = e1 ++ lastEffs { s with resps := Map.set s.resps r (respRec x q code out) } r x
  activeI : (respond s r pv code out).1.activeI = FSet.rem s.activeI r
  resps : (respond s r pv code out).1.resps = Map.set s.resps r (respRec x q code out)
  volume : (respond s r pv code out).1.volume = bumped s.volume x q
  ctxs : (respond s r pv code out).1.ctxs = Map.set s.ctxs r.ctx (answered x)

theorem respond_accepted {s : State} {r : ReqId} {pv : Addr} {code : Nat} {out : OutKind}
    (hok : (respond s r pv code out).2.1 = .ok) : ∃ q x e1, Answered s r pv code out q x e1 := by
  obtain ⟨e, s', hm, he⟩ := (respond_msg rfl).ok hok
  cases hm with
  | respondBad hq hx hact hs =>
    exact ⟨_, _, _, hq, hx, rfl, hact, List.forall_mem_append.mpr ⟨slash_money (.of_done hs), pay_money _ _ _⟩,
      by rw [he], by rw [he], by rw [he], by rw [he], by rw [he]⟩
  | respondGood hq hx hact =>
    exact ⟨_, _, _, hq, hx, rfl, hact, pay_money _ _ _, by rw [he], by rw [he], by rw [he], by rw [he], by rw [he]⟩

end SM
