import ServiceModel.Proofs.Lift
/-!
# How the stored contexts change in one step (C09, C10, C19)

Every context record of the next state evolved from the record with the same id (`CtxEvol`) or was created by this very
step under a fresh id (`step_ctx_origin`); so what every new record has and every evolution keeps holds of every stored
context (`step_ctxs`, `ctxs_reachable`: the total bound of C10, the validity of C19).

The end of a block rewrites a stored context in three ways: it completes the batch, starts the next one, or pauses the
context for lack of funds. `endBlock_ctxs_from` lifts any relation between records that these three satisfy.
-/
namespace SM
open Map

/-- C10: the batch counter of a repeated context with a positive total does not exceed the total -/
def TotBound (x : Ctx) : Prop := x.rep = true → 0 < x.total → (x.batch : Int) ≤ x.total

/-- the allowed evolution of a context record -/
structure CtxEvol (x y : Ctx) : Prop where
  svc : y.svc = x.svc
  cons : y.cons = x.cons
  super : y.super = x.super
  rep : y.rep = x.rep
  mod : y.mod = x.mod
  batch : x.batch ≤ y.batch
  final : x.state = .completed → y.state = .completed
  bnd : TotBound x → TotBound y
  /-- C19: the record stays valid on its own (`RequestContext.Validate`) -/
  fields : ctxFieldsOK x = true → ctxFieldsOK y = true

theorem CtxEvol.refl (x : Ctx) : CtxEvol x x := ⟨rfl, rfl, rfl, rfl, rfl, Nat.le_refl _, id, id, id⟩

theorem CtxEvol.trans {x y z : Ctx} (h1 : CtxEvol x y) (h2 : CtxEvol y z) : CtxEvol x z :=
  ⟨h2.svc.trans h1.svc, h2.cons.trans h1.cons, h2.super.trans h1.super, h2.rep.trans h1.rep, h2.mod.trans h1.mod,
   Nat.le_trans h1.batch h2.batch, fun h => h2.final (h1.final h), fun h => h2.bnd (h1.bnd h), fun h => h2.fields (h1.fields h)⟩

def CtxsEvol (s s' : State) : Prop :=
  ∀ c y, Map.get s'.ctxs c = some y → ∃ x, Map.get s.ctxs c = some x ∧ CtxEvol x y

theorem CtxsEvol.refl (s : State) : CtxsEvol s s := From.refl CtxEvol.refl _

theorem CtxsEvol.trans {a b c : State} (h1 : CtxsEvol a b) (h2 : CtxsEvol b c) : CtxsEvol a c :=
  From.trans h1 h2 CtxEvol.trans

theorem ctxsEvol_set {s s' : State} {c : CtxId} {x x' : Ctx} (hx : Map.get s.ctxs c = some x)
    (h : s'.ctxs = Map.set s.ctxs c x') (he : CtxEvol x x') : CtxsEvol s s' :=
  fun k y hy => From.set CtxEvol.refl hx he k y (h ▸ hy)

theorem CtxEvol.lifecycle {x : Ctx} {st : CtxState} {bs : BatchState} (h : x.state = .completed → st = .completed) :
    CtxEvol x { x with bstate := bs, state := st } :=
  ⟨rfl, rfl, rfl, rfl, rfl, Nat.le_refl _, h, id, id⟩

theorem UpdateOK.evol {s : State} {x x1 : Ctx} {provs : List Addr} {thr : Nat} {cap : Option Nat} {timeout : Int}
    {freq : Nat} {total : Int} (h : UpdateOK s x x1 provs thr cap timeout freq total)
    (hval : validateCtxUpdate provs cap timeout freq total = none) :
    CtxEvol x (updFields x1 provs cap (effTimeout x timeout) (effFreq x freq) total) := by
  obtain ⟨t, rfl⟩ := updThr_eq h.thr
  refine ⟨rfl, rfl, rfl, rfl, rfl, Nat.le_refl _, fun hc => absurd hc h.live, fun hb hrep hpos => ?_, fun hf => ?_⟩
  · -- a new total is not below the number of batches so far
    have htot := h.total
    show (x.batch : Int) ≤ if total ≠ 0 then total else x.total
    replace hpos : 0 < if total ≠ 0 then total else x.total := hpos
    by_cases h0 : total ≠ 0
    · rw [if_pos h0] at hpos ⊢; omega
    · rw [if_neg h0] at hpos ⊢; exact hb hrep hpos
  · -- new providers and a new cap are valid by `hval`, the old ones by `hf`
    obtain ⟨hlen, hval⟩ := ite_some_eq_none hval
    obtain ⟨hnd, -⟩ := ite_some_eq_none hval
    unfold ctxFieldsOK at hf ⊢
    simp only [Bool.and_eq_true, Bool.not_eq_true', decide_eq_true_eq, ne_eq] at hf ⊢
    obtain ⟨⟨⟨⟨⟨f1, f2⟩, f3⟩, f4⟩, f5⟩, f6⟩ := hf
    have hp : ∀ l, l = (if provs.isEmpty then x.provs else provs) → l.isEmpty = false ∧ l.length ≤ 10 ∧ l.Nodup := by
      intro l hl
      split at hl <;> rw [hl]
      · exact ⟨f2, f3, f4⟩
      · exact ⟨by simpa using ‹¬ provs.isEmpty = true›, by omega, Decidable.not_not.mp hnd⟩
    obtain ⟨p1, p2, p3⟩ := hp _ rfl
    refine ⟨⟨⟨⟨⟨f1, p1⟩, p2⟩, p3⟩, f5⟩, ?_⟩
    cases cap with
    | none => exact f6
    | some n => exact Nat.pos_of_ne_zero fun e => h.cap (congrArg some e)

theorem answered_evol (x : Ctx) : CtxEvol x (answered x) := by
  unfold answered
  split <;> exact ⟨rfl, rfl, rfl, rfl, rfl, Nat.le_refl _, id, id, id⟩

theorem nextBatch_evol (x : Ctx) (n : Nat) (hrun : x.state = .running) (hnd : ¬ x.done) : CtxEvol x (nextBatch x n) := by
  refine ⟨rfl, rfl, rfl, rfl, rfl, Nat.le_succ _, (fun h => nomatch hrun.symm.trans h), fun _ hrep hpos => ?_, id⟩
  show ((x.batch + 1 : Nat) : Int) ≤ x.total
  have : ¬ (x.batch : Int) ≥ x.total := fun hge => hnd ⟨hrun, hrep, Int.le_of_lt hpos, hge⟩
  omega

section block
variable {E : Ctx → Ctx → Prop} (refl : ∀ x, E x x)
include refl

section expire
variable (trans : ∀ {x y z}, E x y → E y z → E x z) (hdone : ∀ x, E x { x with bstate := .completed })
include trans hdone

omit trans in
theorem Close.ctxs_from {s s' : State} {c : CtxId} {e : List Effect} (h : Close s c e s') : From E s.ctxs s'.ctxs := by
  cases h with
  | lost => exact .refl refl _
  | remove => exact .del refl _ c
  | again hx | park hx => exact .set refl hx (hdone _)

theorem expireBatch_ctxs_from {s : State} {c : CtxId} (hnp : (expireBatch s c).panic = none) :
    From E s.ctxs (expireBatch s c).s.ctxs :=
  expireBatch_lift (R := fun s _ s' => From E s.ctxs s'.ctxs) (fun _ => .refl refl _) (fun h1 h2 => h1.trans h2 trans)
    (fun _ _ h => (congrArg State.ctxs h.frame :) ▸ .refl refl _) (fun _ h => h.ctxs_from refl hdone) hnp

end expire

section new
variable (hnext : ∀ x n, x.state = .running → ¬ x.done → E x (nextBatch x n))
  (hpause : ∀ x, x.state = .running → E x { x with bstate := .completed, state := .paused })
include hnext hpause

theorem New.ctxs_from {s s' : State} {c : CtxId} {e : List Effect} (h : New s c e s') : From E s.ctxs s'.ctxs := by
  cases h with
  | lost | drop => exact .refl refl _
  | finish => exact .del refl _ c
  | issue hx hrun hnd | skip hx hrun hnd => exact .set refl hx (hnext _ _ hrun hnd)
  | unfunded hx hrun => exact .set refl hx (hpause _ hrun)

theorem newBatch_ctxs_from (s : State) (c : CtxId) : From E s.ctxs (newBatch s c).s.ctxs :=
  newBatch_of (R := fun _ s' => From E s.ctxs s'.ctxs) s c (.refl refl _) fun _ h => h.ctxs_from refl hnext hpause

end new

theorem endBlock_ctxs_from (trans : ∀ {x y z}, E x y → E y z → E x z) (hdone : ∀ x, E x { x with bstate := .completed })
    (hnext : ∀ x n, x.state = .running → ¬ x.done → E x (nextBatch x n))
    (hpause : ∀ x, x.state = .running → E x { x with bstate := .completed, state := .paused })
    {s : State} {dt : Int} (hnp : (endBlock s dt).panic = none) : From E s.ctxs (endBlock s dt).s.ctxs :=
  endBlock_lift (R := fun s _ s' => From E s.ctxs s'.ctxs) (fun _ => .refl refl _) (fun h1 h2 => h1.trans h2 trans)
    (fun _ _ h => (congrArg State.ctxs h.frame :) ▸ .refl refl _) (fun _ h => h.ctxs_from refl hdone)
    (fun _ h => h.ctxs_from refl hnext hpause) (fun _ _ => .refl refl _) hnp

end block

theorem expireBatch_evol (s : State) (c : CtxId) (hnp : (expireBatch s c).panic = none) :
    CtxsEvol s (expireBatch s c).s :=
  expireBatch_ctxs_from CtxEvol.refl CtxEvol.trans (fun _ => .lifecycle id) hnp

theorem newBatch_evol (s : State) (c : CtxId) : CtxsEvol s (newBatch s c).s :=
  newBatch_ctxs_from CtxEvol.refl nextBatch_evol (fun _ hrun => .lifecycle fun h => nomatch hrun.symm.trans h) s c

theorem endBlock_evol {s : State} {dt : Int} (hnp : (endBlock s dt).panic = none) : CtxsEvol s (endBlock s dt).s :=
  endBlock_ctxs_from CtxEvol.refl CtxEvol.trans (fun _ => .lifecycle id) nextBatch_evol
    (fun _ hrun => .lifecycle fun h => nomatch hrun.symm.trans h) hnp

/-- a message has passed `ValidateRequest` statelessly (`hv`), a module's call passes it in `createPre` -/
theorem CreateOK.fields {s : State} {mod : ModName} {svc : SvcName} {provs : List Addr} {cons : Addr} {cap : Option Nat}
    {capv : Nat} {timeout : Int} {super rep : Bool} {freq : Nat} {total : Int} {inputOk running : Bool} {thr : Nat}
    (h : CreateOK s mod svc provs cap capv timeout rep freq total inputOk thr)
    (hv : mod = "" → validateRequest svc cap provs timeout rep freq total = none) (hcons : cons ≠ "") :
    ctxFieldsOK (newCtxRec mod svc provs cons capv timeout super rep freq total running thr) = true := by
  obtain ⟨v1, v2, v3, v4, -, -⟩ := validateRequest_none (Decidable.byCases hv (createPre_none h.pre))
  unfold ctxFieldsOK newCtxRec
  simp only [Bool.and_eq_true, Bool.not_eq_true', decide_eq_true_eq, ne_eq]
  exact ⟨⟨⟨⟨⟨v1, v2⟩, v3⟩, v4⟩, hcons⟩, Nat.pos_of_ne_zero h.capPos⟩

theorem created_origin {s : State} {id : CtxId} {x : Ctx} {running : Bool} (hf : id ∉ s.usedIds) (hb : x.batch = 0)
    (hok : ctxFieldsOK x = true) {c : CtxId} {y : Ctx} (hy : get (created s id x running).ctxs c = some y) :
    (∃ x, get s.ctxs c = some x ∧ CtxEvol x y) ∨ (c ∉ s.usedIds ∧ y.batch = 0 ∧ ctxFieldsOK y = true) := by
  rcases get_set_cases hy with ⟨rfl, rfl⟩ | hy
  · exact .inr ⟨hf, hb, hok⟩
  · exact .inl ⟨y, hy, .refl y⟩

theorem Msg.origin {s s' : State} {op : Op} {e : List Effect} (h : Msg s op e s') (hv : validateBasic op = true)
    (hw : WF s op) {c : CtxId} {y : Ctx} (hy : get s'.ctxs c = some y) :
    (∃ x, get s.ctxs c = some x ∧ CtxEvol x y) ∨ (c ∉ s.usedIds ∧ y.batch = 0 ∧ ctxFieldsOK y = true) := by
  have evol : CtxsEvol s s' → ∃ x, get s.ctxs c = some x ∧ CtxEvol x y := fun h => h c y hy
  cases h with
  | call _ hc =>
    replace hv : callVB _ _ _ _ _ _ _ _ = true := hv
    simp only [callVB, Bool.and_eq_true, decide_eq_true_eq, Option.isNone_iff_eq_none] at hv
    exact created_origin hw.2.1 rfl (hc.fields (fun _ => hv.2) hv.1) hy
  | modcreate hc => exact created_origin hw.2.1 rfl (hc.fields (fun e => absurd e hw.2.2.1) hw.2.2.2) hy
  | respondBad _ hx | respondGood _ hx => exact .inl (evol (ctxsEvol_set hx rfl (answered_evol _)))
  | pause hx _ hrun | modpause hx _ hrun =>
    exact .inl (evol (ctxsEvol_set hx rfl (.lifecycle fun h => nomatch hrun.symm.trans h)))
  | start hx hp | modstart hx hp =>
    exact .inl (evol (ctxsEvol_set hx rfl (.lifecycle fun h => nomatch hp.symm.trans h)))
  | kill hx | modkill hx => exact .inl (evol (ctxsEvol_set hx rfl (.lifecycle fun _ => rfl)))
  | updatectx hx hu =>
    replace hv : updatectxVB _ _ _ _ _ _ = true := hv
    simp only [updatectxVB, Bool.and_eq_true, Option.isNone_iff_eq_none] at hv
    exact .inl (evol (ctxsEvol_set hx rfl (hu.evol hv.2)))
  | modupdate hx hu => exact .inl (evol (ctxsEvol_set hx rfl (hu.evol hw)))
  | _ => exact .inl (evol (.refl s))

theorem step_ctx_origin {s : State} (op : Op) (hw : WF s op) (c : CtxId) (y : Ctx)
    (hy : Map.get (step s op).1.ctxs c = some y) :
    (∃ x, Map.get s.ctxs c = some x ∧ CtxEvol x y) ∨ (c ∉ s.usedIds ∧ y.batch = 0 ∧ ctxFieldsOK y = true) := by
  rcases step_cases s op with ⟨r, _, he⟩ | ⟨_, hv, e, s', hm, he⟩ | ⟨dt, rfl, ⟨hnp, he⟩ | ⟨m, _, he⟩⟩ <;> rw [he] at hy
  · exact .inl ⟨y, hy, .refl y⟩
  · exact hm.origin hv hw hy
  · exact .inl (endBlock_evol hnp c y hy)
  · exact .inl ⟨y, hy, .refl y⟩

section
variable {P : Ctx → Prop} (hnew : ∀ y, y.batch = 0 → ctxFieldsOK y = true → P y) (hev : ∀ x y, CtxEvol x y → P x → P y)
include hnew hev

theorem step_ctxs {s : State} (op : Op) (hw : WF s op) (hs : ∀ c x, Map.get s.ctxs c = some x → P x) :
    ∀ c y, Map.get (step s op).1.ctxs c = some y → P y := fun c y hy => by
  rcases step_ctx_origin op hw c y hy with ⟨x, hx, he⟩ | ⟨_, hb, hf⟩
  · exact hev x y he (hs c x hx)
  · exact hnew y hb hf

theorem ctxs_reachable {cfg : Config} {p : Params} {h0 t0 : Int} {s : State} (hr : Reachable cfg p h0 t0 s) :
    ∀ c x, Map.get s.ctxs c = some x → P x := by
  induction hr with
  | init => intro c x hx; cases hx
  | step op hr' hw ih => exact step_ctxs hnew hev op hw ih

end

/-- C19: in every reachable state every stored context is valid on its own (`RequestContext.Validate`) -/
theorem ctxsFieldsOK {cfg : Config} {p : Params} {h0 t0 : Int} (hc : CfgOK cfg p) {s : State}
    (hr : Reachable cfg p h0 t0 s) : ∀ c x, Map.get s.ctxs c = some x → ctxFieldsOK x = true :=
  ctxs_reachable (fun _ _ hf => hf) (fun _ _ he => he.fields) hr

/-- the fields the consumer (or the owning module) sets agree -/
def PSame (x y : Ctx) : Prop :=
  y.provs = x.provs ∧ y.cap = x.cap ∧ y.timeout = x.timeout ∧ y.freq = x.freq ∧ y.total = x.total ∧ y.thr = x.thr

theorem PSame.refl (x : Ctx) : PSame x x := ⟨rfl, rfl, rfl, rfl, rfl, rfl⟩

theorem PSame.trans {x y z : Ctx} (h1 : PSame x y) (h2 : PSame y z) : PSame x z := by
  obtain ⟨a1, a2, a3, a4, a5, a6⟩ := h1
  obtain ⟨b1, b2, b3, b4, b5, b6⟩ := h2
  exact ⟨b1.trans a1, b2.trans a2, b3.trans a3, b4.trans a4, b5.trans a5, b6.trans a6⟩

/-- the context an update operation is aimed at -/
def Op.updTarget : Op → Option CtxId
  | .updatectx c _ _ _ _ _ _ => some c
  | .modupdate c _ _ _ _ _ _ _ => some c
  | _ => none

theorem Msg.psame {s s' : State} {op : Op} {e : List Effect} (h : Msg s op e s') (hw : WF s op) {c : CtxId} {y : Ctx}
    (hy : get s'.ctxs c = some y) :
    (∃ x, get s.ctxs c = some x ∧ PSame x y) ∨ c ∉ s.usedIds ∨ op.updTarget = some c := by
  have rewritten : ∀ {c0 x x'}, get s.ctxs c0 = some x → get (set s.ctxs c0 x') c = some y → PSame x x' →
      ∃ x, get s.ctxs c = some x ∧ PSame x y := fun hx hy hp => From.set PSame.refl hx hp c y hy
  cases h with
  | call | modcreate =>
    rcases get_set_cases hy with ⟨rfl, _⟩ | hy
    · exact .inr (.inl hw.2.1)
    · exact .inl ⟨y, hy, .refl y⟩
  | updatectx | modupdate =>
    rcases get_set_cases hy with ⟨rfl, _⟩ | hy
    · exact .inr (.inr rfl)
    · exact .inl ⟨y, hy, .refl y⟩
  | respondBad _ hx | respondGood _ hx =>
    refine .inl (rewritten hx hy ?_)
    unfold answered; split <;> exact ⟨rfl, rfl, rfl, rfl, rfl, rfl⟩
  | pause hx | modpause hx | start hx | modstart hx | kill hx | modkill hx =>
    exact .inl (rewritten hx hy ⟨rfl, rfl, rfl, rfl, rfl, rfl⟩)
  | _ => exact .inl ⟨y, hy, .refl y⟩

/-- C09: over every step, a context that existed before keeps its providers, fee cap, timeout, frequency, total and
    threshold unless the step is an update aimed at it -/
theorem step_params_stable {s : State} (h : Inv s) (op : Op) (hw : WF s op) (c : CtxId) (x y : Ctx)
    (hx : get s.ctxs c = some x) (hy : get (step s op).1.ctxs c = some y) (hnu : op.updTarget ≠ some c) : PSame x y := by
  rcases step_cases s op with ⟨_, _, he⟩ | ⟨_, _, _, _, hm, he⟩ | ⟨dt, rfl, ⟨hnp, he⟩ | ⟨_, _, he⟩⟩ <;> rw [he] at hy
  · cases hx.symm.trans hy; exact .refl x
  · rcases hm.psame hw hy with ⟨x', hx', hp⟩ | hf | hu
    · cases hx.symm.trans hx'; exact hp
    · exact absurd (h.x.used c (by rw [hx]; rfl)) hf
    · exact absurd hu hnu
  · obtain ⟨x', hx', hp⟩ := endBlock_ctxs_from PSame.refl PSame.trans (fun _ => ⟨rfl, rfl, rfl, rfl, rfl, rfl⟩)
      (fun _ _ _ _ => ⟨rfl, rfl, rfl, rfl, rfl, rfl⟩) (fun _ _ => ⟨rfl, rfl, rfl, rfl, rfl, rfl⟩) hnp c y hy
    cases hx.symm.trans hx'; exact hp
  · cases hx.symm.trans hy; exact .refl x

end SM
