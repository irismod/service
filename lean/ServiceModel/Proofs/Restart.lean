import ServiceModel.Model.Restart
import ServiceModel.Proofs.Reachable
import ServiceModel.Proofs.Genesis
import ServiceModel.Proofs.Frames
import ServiceModel.Proofs.CtxEvol
/-!
# Zero-height restarts

`restart_eq` writes the restarted state as one record. `InvAll` is what a restart needs of the old chain and gives back
on the new one (`InvAll.restart`): `Inv` together with the families that say every stored record is valid on its own.
`ReachableR`: chains of well-formed operations and restarts; `reachableR_invAll`.
-/
namespace SM
open Map

theorem restart_eq {s s' : State} {height time : Int} :
    restart s height time = some s' ↔
    (prep s).panic = none ∧ validateG (exportG (prep s).s) = true ∧
    (∀ e ∈ entries s.bindings, ∃ pr, parsePricing e.2.text = .ok pr) ∧
    s' = { genesis s.cfg s.params height time with
             defs := entries s.defs,
             bindings := entries s.bindings,
             ownerBind := (entries s.bindings).foldl (fun m e => FSet.ins m (e.2.owner, e.1.1, e.1.2)) [],
             owner := (entries s.bindings).foldl (fun m e => Map.set m e.1.2 e.2.owner) [],
             ownerProv := (entries s.bindings).foldl (fun m e => FSet.ins m (e.2.owner, e.1.2)) [],
             pricing := (parsedPrices (entries s.bindings)).foldl (fun m e => Map.set m e.1 e.2) [],
             withdraw := entries s.withdraw,
             ctxs := entries (s.ctxs.map fun e => (e.1, resetCtx e.2)),
             bank := (prep s).s.bank,
             usedIds := s.usedIds } := by
  unfold restart
  cases hp : (prep s).panic with
  | some m => exact ⟨nofun, fun h => nomatch h.1⟩
  | none =>
    -- what `importG` makes of the genesis exported after the preparation: the scans are written back as they are
    have hI := fun s2 =>
      importG_eq (cfg := s.cfg) (g := exportG (prep s).s) (height := height) (time := time) (s' := s2)
    rw [prep_export hp] at hI ⊢
    simp only [foldl_set_entries] at hI
    dsimp only
    constructor
    · intro h
      split at h
      · cases h
      · rename_i s2 hs2
        cases h
        obtain ⟨hv, hparse, rfl⟩ := (hI s2).mp hs2
        exact ⟨rfl, hv, hparse, rfl⟩
    · rintro ⟨_, hv, hparse, rfl⟩
      rw [(hI _).mpr ⟨hv, hparse, rfl⟩]

theorem restart_ctx {s s' : State} {height time : Int} (hre : restart s height time = some s') (c : CtxId) :
    get s'.ctxs c = (get s.ctxs c).map resetCtx := by
  obtain ⟨-, -, -, rfl⟩ := restart_eq.mp hre
  exact (get_entries _ c).trans (get_mapVals resetCtx s.ctxs c)

theorem restart_ctx_of {s s' : State} {height time : Int} (hre : restart s height time = some s') {c : CtxId} {y : Ctx}
    (hy : get s'.ctxs c = some y) : ∃ x, get s.ctxs c = some x ∧ y = resetCtx x := by
  rw [restart_ctx hre] at hy
  obtain ⟨x, hx, rfl⟩ := Option.map_eq_some_iff.mp hy
  exact ⟨x, hx, rfl⟩

/-- everything the restart needs of a state, and gives back: the invariants `Inv` together with the four side
    invariants that have their own inductions (no module account earns, every stored record is valid on its own,
    every stored context is valid on its own, one binding record per key) -/
structure InvAll (s : State) : Prop where
  inv : Inv s
  earn : EarnOK s
  recs : RecOK s
  ctxf : ∀ c x, get s.ctxs c = some x → ctxFieldsOK x = true
  nodup : NodupKeys s.bindings

/-- the statement of `C19.validate_after_prep`, for any state that satisfies the invariants -/
theorem validate_after_prep_of {s : State} (h : InvAll s) : validateG (exportG (prep s).s) = true := by
  obtain ⟨hnp, -⟩ := prep_spec h.inv (fun pv hp e => h.earn pv hp (.inl e))
  have hs := h.inv.static
  rw [prep_export hnp]
  simp only [validateG, paramsValid, Bool.and_eq_true, decide_eq_true_eq, List.all_eq_true]
  refine ⟨⟨⟨⟨⟨⟨⟨⟨⟨Int.lt_of_lt_of_le Int.zero_lt_one hs.maxT_pos, hs.mult_pos⟩, hs.tax_lt⟩, hs.slash_le⟩,
    hs.complaint_pos⟩, hs.arbitration_pos⟩, fun e he => h.recs.defs _ _ ((mem_entries _ _ _).mp he)⟩,
    fun e he => h.recs.binds _ _ ((mem_entries _ _ _).mp he)⟩, fun e he => h.recs.wd _ _ ((mem_entries _ _ _).mp he)⟩,
    fun e he => ?_⟩
  -- a context of the export is a context of `s`, paused and with its batch completed
  obtain ⟨c, y⟩ := e
  rw [mem_entries, get_mapVals] at he
  obtain ⟨x, hx, rfl⟩ := Option.map_eq_some_iff.mp he
  simp only [ctxValid, Bool.and_eq_true, decide_eq_true_eq]
  exact ⟨⟨h.ctxf _ x hx, rfl⟩, rfl⟩

theorem restart_export {s s' : State} {height time : Int} (hre : restart s height time = some s') :
    s'.cfg = s.cfg ∧ s'.params = s.params ∧ s'.height = height ∧ s'.time = time ∧
      exportG s' = exportG (prep s).s := by
  obtain ⟨hnp, -, -, rfl⟩ := restart_eq.mp hre
  refine ⟨rfl, rfl, rfl, rfl, ?_⟩
  rw [prep_export hnp]
  simp only [exportG, genesis, entries_idem]

theorem InvAll.restart_isSome {s : State} (h : InvAll s) (height time : Int) : (restart s height time).isSome := by
  rw [restart_eq.mpr ⟨(prep_spec h.inv (fun pv hp e => h.earn pv hp (.inl e))).1, validate_after_prep_of h,
    fun e he => (h.inv.b.priced e.1 e.2 ((mem_entries _ _ _).mp he)).imp fun _ hp => hp.2.1, rfl⟩]
  rfl

/-- the service store is rebuilt from the genesis alone, the balances are as the preparation left them -/
theorem InvAll.restart {s s' : State} (hall : InvAll s) {height time : Int} (hre : restart s height time = some s') :
    InvAll s' := by
  have hinv := hall.inv
  obtain ⟨-, hesc, -⟩ := prep_spec hinv (fun pv h e => hall.earn pv h (.inl e))
  have hdep : balOf (prep s).s.bank.bal s.cfg.deposit = balOf s.bank.bal s.cfg.deposit :=
    prep_bal_other s.cfg.deposit (fun e => hinv.static.ed e.symm)
      (fun r v hv e => reqView_cons_not_mod hinv r v hv (.inr (.inl e)))
      (fun pv h e => hall.earn pv h (.inr (.inl e)))
  -- a context of the new chain is a context of the old one, reset
  have hctx := fun c y => restart_ctx_of hre (c := c) (y := y)
  obtain ⟨-, -, -, rfl⟩ := restart_eq.mp hre
  refine ⟨⟨hinv.static, ?binv, ?xinv, ?minv, ?bound⟩, nofun, ⟨?_, ?_, ?_⟩, ?ctxf, nodupKeys_entries _⟩
  case binv => exact (hinv.b.import hall.nodup (get_entries s.defs)).sameBal hdep
  case xinv =>
    -- the invocation world: the contexts as reset, everything else empty
    show XInv s.cfg height (entries (s.ctxs.map fun e => (e.1, resetCtx e.2))) [] [] [] [] s.usedIds [] [] [] []
    refine { ctxWF := fun c y hy => ?_, ctxCons := fun c y hy => ?_, newMirror := fun h c => by simp,
             expMirror := fun h c => by simp, single := fun c => .inl rfl, newFuture := nofun, expFuture := nofun,
             runningQ := fun c y hy hrun => ?_, used := fun c hs => ?_, reqCtx := nofun, activeReq := nofun,
             activeMirror := fun svc pv e r => by simp, respReq := nofun, activeNodup := List.nodup_nil,
             bRunExp := fun c y hy hrun => ?_, activeRunning := nofun, counts := fun c y hy hrun => ?_ }
    · obtain ⟨x, hx, rfl⟩ := hctx c y hy; exact hinv.x.ctxWF c x hx
    · obtain ⟨x, hx, rfl⟩ := hctx c y hy; exact hinv.x.ctxCons c x hx
    · obtain ⟨x, -, rfl⟩ := hctx c y hy; cases hrun
    · obtain ⟨y, hy⟩ := Option.isSome_iff_exists.mp hs
      obtain ⟨x, hx, -⟩ := hctx c y hy
      exact hinv.x.used c (by rw [hx]; rfl)
    · obtain ⟨x, -, rfl⟩ := hctx c y hy; cases hrun
    · obtain ⟨x, -, rfl⟩ := hctx c y hy; cases hrun
  case minv =>
    -- the money world: nothing pending, nothing earned, an empty escrow
    show MInv (balOf (prep s).s.bank.bal s.cfg.escrow) [] [] [] [] _
    rw [hesc]
    exact { escrow := rfl, earnedK := nodupKeys_nil, ownerEarnedK := nodupKeys_nil, ownerSum := fun o => rfl,
            earnedOwned := nofun }
  case bound => exact fun r q hq => nomatch hq
  case ctxf => intro c y hy; obtain ⟨x, hx, rfl⟩ := hctx c y hy; exact hall.ctxf c x hx
  · exact fun n d hg => hall.recs.defs n d (by rw [← get_entries]; exact hg)
  · exact fun k b hg => hall.recs.binds k b (by rw [← get_entries]; exact hg)
  · exact fun o a hg => hall.recs.wd o a (by rw [← get_entries]; exact hg)

/-- **The restarted chain starts in a state that satisfies every invariant.** For every state `s` satisfying the
    invariants the zero-height preparation, the export and the import into a fresh chain all succeed, and the resulting
    state satisfies them again, under the same configuration and parameters, and exports the same genesis. -/
theorem restart_invAll {s : State} (hall : InvAll s) (height time : Int) :
    ∃ s', restart s height time = some s' ∧ InvAll s' ∧ s'.cfg = s.cfg ∧ s'.params = s.params ∧
      s'.height = height ∧ s'.time = time ∧ exportG s' = exportG (prep s).s := by
  obtain ⟨s', hre⟩ := Option.isSome_iff_exists.mp (hall.restart_isSome height time)
  exact ⟨s', hre, hall.restart hre, restart_export hre⟩

theorem step_invAll (s : State) (op : Op) (h : InvAll s) (hw : WF s op) : InvAll (step s op).1 :=
  ⟨step_inv _ op h.inv hw, step_earnOK s op hw h.earn, step_vk s op hw h.recs,
   step_ctxs (fun _ _ hf => hf) (fun _ _ he => he.fields) op hw h.ctxf, step_bk s op h.nodup⟩

/-- states reachable from the empty genesis by well-formed operations **and any number of zero-height restarts**
    (each at an arbitrary new height and time) -/
inductive ReachableR (cfg : Config) (p : Params) (h0 t0 : Int) : State → Prop
  | init : ReachableR cfg p h0 t0 (genesis cfg p h0 t0)
  | step {s : State} (op : Op) : ReachableR cfg p h0 t0 s → WF s op → ReachableR cfg p h0 t0 (step s op).1
  | restart {s s' : State} (height time : Int) : ReachableR cfg p h0 t0 s → SM.restart s height time = some s' →
      ReachableR cfg p h0 t0 s'

theorem Reachable.toR {cfg : Config} {p : Params} {h0 t0 : Int} {s : State} (hr : Reachable cfg p h0 t0 s) :
    ReachableR cfg p h0 t0 s := by
  induction hr with
  | init => exact .init
  | step op _ hw ih => exact .step op ih hw

theorem reachableR_invAll {cfg : Config} {p : Params} {h0 t0 : Int} (hc : CfgOK cfg p) {s : State}
    (hr : ReachableR cfg p h0 t0 s) : InvAll s := by
  induction hr with
  | init =>
    exact ⟨genesis_inv cfg p h0 t0 hc, (fun _ h => nomatch h), ⟨(fun _ _ h => nomatch h), (fun _ _ h => nomatch h),
      (fun _ _ h => nomatch h)⟩, (fun _ _ h => nomatch h), nodupKeys_nil⟩
  | step op _ hw ih => exact step_invAll _ op ih hw
  | restart height time _ hre ih => exact ih.restart hre

theorem restart_inv {cfg : Config} {p : Params} {h0 t0 : Int} (hc : CfgOK cfg p) {s : State}
    (hr : Reachable cfg p h0 t0 s) (height time : Int) :
    ∃ s', restart s height time = some s' ∧ Inv s' ∧ s'.cfg = s.cfg ∧ s'.params = s.params ∧
      s'.height = height ∧ s'.time = time ∧ exportG s' = exportG (prep s).s := by
  obtain ⟨s', h1, h2, h3⟩ := restart_invAll (reachableR_invAll hc hr.toR) height time
  exact ⟨s', h1, h2.inv, h3⟩

theorem inv_reachableFrom {s0 s : State} (h0 : Inv s0) (hr : ReachableFrom s0 s) : Inv s := by
  induction hr with
  | init => exact h0
  | step op _ hw ih => exact step_inv _ op ih hw

end SM
