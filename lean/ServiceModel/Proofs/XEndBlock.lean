import ServiceModel.Proofs.XWorld
/-!
# The invocation world at the end of a block: the expiry of a batch, the removal of a context, a new batch
-/
namespace SM
open Map

variable {cfg : Config} {height : Int} {ctxs : Map CtxId Ctx} {expQ newQ : FSet (Int × CtxId)}
  {expH newH : Map CtxId Int} {usedIds : List CtxId} {reqs : Map ReqId Req}
  {activeB : FSet (SvcName × Addr × Int × ReqId)} {activeI : FSet ReqId} {resps : Map ReqId Resp}

/-- removing a context that has no scheduled event, no request record and no pending marker -/
theorem XInv.delCtx {c : CtxId}
    (h : XInv cfg height ctxs expQ newQ expH newH usedIds reqs activeB activeI resps)
    (hn : Map.get newH c = none) (he : Map.get expH c = none)
    (hr : ∀ r q, Map.get reqs r = some q → r.ctx ≠ c) :
    XInv cfg height (Map.del ctxs c) expQ newQ expH newH usedIds reqs activeB activeI resps := by
  have ha : ∀ r, r.ctx = c → r ∉ activeI := fun r hc hm => by
    obtain ⟨q, _, hq, _⟩ := h.pending hm
    exact hr r q hq hc
  exact h.local c (fun c2 hc => { ctxs := get_del_other _ _ _ (Ne.symm hc) }) h.activeNodup
    { h.toAt c with
      ctxWF := forall_del_same
      ctxCons := forall_del_same
      newFuture := fun _ e => nomatch hn.symm.trans e
      expFuture := fun _ e => nomatch he.symm.trans e
      runningQ := forall_del_same
      used := fun hs => by rw [get_del_same] at hs; cases hs
      reqCtx := fun r q hc hq => absurd hc (hr r q hq)
      activeMirror := fun svc p e r hc =>
        ⟨fun hm => absurd ((h.activeMirror svc p e r).mp hm).1 (ha r hc), fun hm => absurd hm.1 (ha r hc)⟩
      bRunExp := forall_del_same
      activeRunning := fun r hc hm => absurd hm (ha r hc)
      counts := forall_del_same }

/-- the end of a batch's expiry block: the context's markers, records and expiry entry are gone and the
    context is left with its batch completed and (here) not running -/
theorem XInv.expireCore {c : CtxId} {x x' : Ctx}
    {reqs' : Map ReqId Req} {resps' : Map ReqId Resp}
    {activeB' : FSet (SvcName × Addr × Int × ReqId)} {activeI' : FSet ReqId}
    (h : XInv cfg height ctxs expQ newQ expH newH usedIds reqs activeB activeI resps)
    (hx : Map.get ctxs c = some x) (hexp : Map.get expH c = some height)
    (h1 : x'.cons = x.cons) (h2 : x'.svc = x.svc) (h3 : x'.batch = x.batch) (hwf : ctxOK x')
    (hbs : x'.bstate = .completed) (hnr : x'.state ≠ .running)
    (hAI : ∀ r, r ∈ activeI' ↔ r ∈ activeI ∧ r.ctx ≠ c)
    (hAB : ∀ t, t ∈ activeB' ↔ t ∈ activeB ∧ t.2.2.2.ctx ≠ c)
    (hAIn : activeI'.Nodup)
    (hAIf : ∀ c2, c2 ≠ c → activeI'.filter (fun r => r.ctx = c2) = activeI.filter (fun r => r.ctx = c2))
    (hreqs : ∀ r, Map.get reqs' r = if r.ctx = c then none else Map.get reqs r)
    (hresps : ∀ r, Map.get resps' r = if r.ctx = c then none else Map.get resps r) :
    XInv cfg height (Map.set ctxs c x') (FSet.rem expQ (height, c)) newQ (Map.del expH c) newH usedIds
      reqs' activeB' activeI' resps' := by
  have hd := get_del_same expH c
  have hnoreq : ∀ r q, r.ctx = c → get reqs' r ≠ some q := fun r q hr hq => by rw [hreqs, if_pos hr] at hq; cases hq
  have hnoact : ∀ r, r.ctx = c → r ∉ activeI' := fun r hr hm => ((hAI r).mp hm).2 hr
  refine h.local c (fun c2 hc => ?_) hAIn
    { h.toAt c with
      ctxWF := forall_set_same.mpr hwf
      ctxCons := forall_set_same.mpr (h1 ▸ h.ctxCons c x hx)
      expMirror := FSet.mirror_rem (h.expMirror · c) hexp
      single := .inr hd
      newFuture := fun hh hn => ⟨(h.newFuture c hh hn).1, by rw [get_set_same]; rfl⟩
      expFuture := fun _ e => nomatch hd.symm.trans e
      runningQ := forall_set_same.mpr fun hr => absurd hr hnr
      used := fun _ => h.used c (by rw [hx]; rfl)
      reqCtx := fun r q hr hq => absurd hq (hnoreq r q hr)
      activeReq := fun r hr hm => absurd hm (hnoact r hr)
      activeMirror := fun svc p e r hr =>
        ⟨fun hm => absurd hr ((hAB _).mp hm).2, fun hm => absurd hm.1 (hnoact r hr)⟩
      respReq := fun r hr hp => by rw [hresps, if_pos hr] at hp; cases hp
      bRunExp := forall_set_same.mpr fun hb => nomatch hbs.symm.trans hb
      activeRunning := fun r hr hm => absurd hm (hnoact r hr)
      counts := forall_set_same.mpr fun hb => nomatch hbs.symm.trans hb }
  have hne : ∀ r : ReqId, r.ctx = c2 → r.ctx ≠ c := fun r hr e => hc (hr.symm.trans e)
  exact { ctxs := get_set_other _ _ _ _ (Ne.symm hc), expQ := FSet.mem_rem_other hc
          expH := get_del_other _ _ _ (Ne.symm hc)
          reqs := fun r hr => by rw [hreqs, if_neg (hne r hr)]
          activeB := fun t ht => (hAB t).trans (and_iff_left (hne _ ht))
          activeI := hAIf c2 hc
          resps := fun r hr hp => by rwa [hresps, if_neg (hne r hr)] at hp }

/-- nothing of an earlier batch is left in a context that is due for a new one -/
structure Due (expH : Map CtxId Int) (reqs : Map ReqId Req) (activeI : FSet ReqId) (c : CtxId) (x : Ctx) : Prop where
  expH : Map.get expH c = none
  bstate : x.bstate = .completed
  reqs : ∀ r q, Map.get reqs r = some q → r.ctx ≠ c
  pending : ∀ r, r ∈ activeI → r.ctx ≠ c

theorem XInv.dueFacts {c : CtxId} {x : Ctx}
    (h : XInv cfg height ctxs expQ newQ expH newH usedIds reqs activeB activeI resps)
    (hx : Map.get ctxs c = some x) (hdue : Map.get newH c = some height) : Due expH reqs activeI c x := by
  have he : Map.get expH c = none := (h.single c).resolve_left fun hn => nomatch hn.symm.trans hdue
  have hr : ∀ r q, Map.get reqs r = some q → r.ctx ≠ c := fun r q hq hc => by
    obtain ⟨y, _, _, hexp⟩ := h.reqCtx r q hq
    rw [hc, he] at hexp; cases hexp
  refine ⟨he, ?_, hr, fun r hr2 => ?_⟩
  · cases hbs : x.bstate with
    | completed => rfl
    | running => have := h.bRunExp c x hx hbs; rw [he] at this; cases this
  · obtain ⟨q, _, hq, _⟩ := h.pending hr2
    exact hr r q hq

theorem XInv.dropNew {c : CtxId} {x : Ctx}
    (h : XInv cfg height ctxs expQ newQ expH newH usedIds reqs activeB activeI resps)
    (hx : Map.get ctxs c = some x) (hdue : Map.get newH c = some height) (hnr : x.state ≠ .running) :
    XInv cfg height ctxs expQ (FSet.rem newQ (height, c)) expH (Map.del newH c) usedIds reqs activeB activeI resps :=
  h.local c (fun c2 hc => { newQ := FSet.mem_rem_other hc, newH := get_del_other _ _ _ (Ne.symm hc) }) h.activeNodup
    { h.toAt c with
      newMirror := FSet.mirror_rem (h.newMirror · c) hdue
      single := .inl (get_del_same _ _)
      newFuture := forall_del_same
      runningQ := fun y hy hr => absurd hr (Option.some.inj (hx.symm.trans hy) ▸ hnr) }

/-- a due context whose consumer cannot pay -/
theorem XInv.pauseNew {c : CtxId} {x x' : Ctx}
    (h : XInv cfg height ctxs expQ newQ expH newH usedIds reqs activeB activeI resps)
    (hx : Map.get ctxs c = some x) (hdue : Map.get newH c = some height)
    (hx' : x' = { x with bstate := .completed, state := .paused }) :
    XInv cfg height (Map.set ctxs c x') expQ (FSet.rem newQ (height, c)) expH (Map.del newH c) usedIds
      reqs activeB activeI resps := by
  have hb := (h.dueFacts hx hdue).bstate
  subst hx'
  have hcore : SameCore { x with bstate := .completed, state := .paused } x := ⟨rfl, rfl, rfl, hb.symm, rfl, rfl⟩
  have hwf : ctxOK { x with bstate := .completed, state := .paused } := h.ctxWF c x hx
  have h1 := XInv.setCtx h hx hcore hwf (by intro hr; cases hr)
  exact XInv.dropNew h1 (Map.get_set_same _ _ _) hdue (by simp)

/-- a due context whose total is reached -/
theorem XInv.finishNew {c : CtxId} {x : Ctx}
    (h : XInv cfg height ctxs expQ newQ expH newH usedIds reqs activeB activeI resps)
    (hx : Map.get ctxs c = some x) (hdue : Map.get newH c = some height) :
    XInv cfg height (Map.del ctxs c) expQ (FSet.rem newQ (height, c)) expH (Map.del newH c) usedIds
      reqs activeB activeI resps := by
  obtain ⟨he, hb, hr, _⟩ := h.dueFacts hx hdue
  -- park the context as paused, drop the entry, then delete it
  have hcore : SameCore { x with state := .paused } x := ⟨rfl, rfl, rfl, rfl, rfl, rfl⟩
  have h1 := XInv.setCtx (x' := { x with state := .paused }) h hx hcore (h.ctxWF c x hx) (by intro hr; cases hr)
  have h2 := XInv.dropNew h1 (Map.get_set_same _ _ _) hdue (by simp)
  have h3 := XInv.delCtx (c := c) h2 (Map.get_del_same _ _) he hr
  rwa [Map.del_set] at h3

/-- a new batch starts for a due running context: `newIds` request records (none for a skipped
    batch) with their markers, the counter advanced, the expiry queued, the new-batch entry consumed -/
theorem XInv.startBatch {c : CtxId} {x x' : Ctx}
    {reqs' : Map ReqId Req} {activeB' : FSet (SvcName × Addr × Int × ReqId)} {activeI' : FSet ReqId}
    (newIds : List ReqId) (qOf : ReqId → Req)
    (h : XInv cfg height ctxs expQ newQ expH newH usedIds reqs activeB activeI resps)
    (hx : Map.get ctxs c = some x) (hdue : Map.get newH c = some height)
    (hc1 : x'.cons = x.cons) (hc2 : x'.svc = x.svc) (hc3 : x'.batch = x.batch + 1)
    (hc4 : x'.bstate = .running) (hc5 : x'.respN = 0) (hc6 : x'.reqN = newIds.length)
    (hc7 : x'.timeout = x.timeout) (hc8 : x'.rep = x.rep) (hc9 : x'.freq = x.freq)
    (hids : ∀ r, r ∈ newIds → r.ctx = c ∧ r.batch = x.batch + 1 ∧ (qOf r).expH = height + x.timeout)
    (hreqs : ∀ r, Map.get reqs' r = if r ∈ newIds then some (qOf r) else Map.get reqs r)
    (hAI : ∀ r, r ∈ activeI' ↔ r ∈ activeI ∨ r ∈ newIds)
    (hAIn : activeI'.Nodup)
    (hAIc : (activeI'.filter (fun r => r.ctx = c)).length = newIds.length)
    (hAIf : ∀ c2, c2 ≠ c → activeI'.filter (fun r => r.ctx = c2) = activeI.filter (fun r => r.ctx = c2))
    (hAB : ∀ t, t ∈ activeB' ↔ t ∈ activeB ∨ ∃ r, r ∈ newIds ∧ t = (x.svc, (qOf r).prov, (qOf r).expH, r)) :
    XInv cfg height (Map.set ctxs c x') (FSet.ins expQ (height + x.timeout, c)) (FSet.rem newQ (height, c))
      (Map.set expH c (height + x.timeout)) (Map.del newH c) usedIds reqs' activeB' activeI' resps := by
  obtain ⟨he, -, hrq, hact⟩ := h.dueFacts hx hdue
  have hwfx := h.ctxWF c x hx
  have hx' := get_set_same ctxs c x'
  have hexp' := get_set_same expH c (height + x.timeout)
  have hnew : ∀ r, r.ctx = c → ∀ q, get reqs' r = some q → r ∈ newIds ∧ q = qOf r := fun r hr q hq => by
    rw [hreqs] at hq
    split at hq
    · exact ⟨‹_›, (Option.some.inj hq).symm⟩
    · exact absurd hr (hrq r q hq)
  have hnewI : ∀ r, r.ctx = c → r ∈ activeI' → r ∈ newIds := fun r hr hm =>
    ((hAI r).mp hm).resolve_left fun hm => hact r hm hr
  refine h.local c (fun c2 hc => ?_) hAIn {
    ctxWF := forall_set_same.mpr ⟨hc7 ▸ hwfx.1, hc7 ▸ hc8 ▸ hc9 ▸ hwfx.2⟩
    ctxCons := forall_set_same.mpr (hc1 ▸ h.ctxCons c x hx)
    newMirror := FSet.mirror_rem (h.newMirror · c) hdue
    expMirror := FSet.mirror_ins (h.expMirror · c) he
    single := .inl (get_del_same _ _)
    newFuture := forall_del_same
    expFuture := fun _ e => ⟨by cases hexp'.symm.trans e; have := hwfx.1; omega, by rw [hx']; rfl⟩
    runningQ := fun _ _ _ => .inr (by rw [hexp']; rfl)
    used := fun _ => h.used c (by rw [hx]; rfl)
    reqCtx := ?_, activeReq := ?_, activeMirror := ?_, respReq := ?_
    bRunExp := fun _ _ _ => by rw [hexp']; rfl
    activeRunning := fun _ _ _ => ⟨x', hx', hc4⟩
    counts := forall_set_same.mpr fun _ => by rw [hAIc, hc5, hc6]; exact Nat.le_refl _ }
  · have hold : ∀ r, r.ctx = c2 → r ∉ newIds := fun r hr hm => hc (hr ▸ (hids r hm).1)
    exact { ctxs := get_set_other _ _ _ _ (Ne.symm hc), expQ := FSet.mem_ins_other hc, newQ := FSet.mem_rem_other hc
            expH := get_set_other _ _ _ _ (Ne.symm hc), newH := get_del_other _ _ _ (Ne.symm hc)
            reqs := fun r hr => by rw [hreqs, if_neg (hold r hr)]
            activeB := fun t ht => (hAB t).trans (or_iff_left fun ⟨r, hm, e⟩ => hold r (by rw [← ht, e]) hm)
            activeI := hAIf c2 hc }
  · intro r q hr hq
    obtain ⟨hm, rfl⟩ := hnew r hr q hq
    exact ⟨x', hx', by rw [(hids r hm).2.1, hc3], by rw [hexp', (hids r hm).2.2]⟩
  · intro r hr hm
    rw [hreqs, if_pos (hnewI r hr hm)]; rfl
  · intro svc p e r hr
    rw [hAB, hAI, hx']
    constructor
    · rintro (ht | ⟨r2, hm, ht⟩)
      · exact absurd hr (hact r ((h.activeMirror svc p e r).mp ht).1)
      · cases ht
        exact ⟨.inr hm, qOf r, x', by rw [hreqs, if_pos hm], rfl, hc2.symm, rfl, rfl⟩
    · rintro ⟨-, q, _, hq, ⟨⟩, rfl, rfl, rfl⟩
      obtain ⟨hm, rfl⟩ := hnew r hr q hq
      exact .inr ⟨r, hm, by rw [hc2]⟩
  · intro r hr hp
    obtain ⟨q, hq⟩ := Option.isSome_iff_exists.mp (h.respReq r hp).1
    exact absurd hr (hrq r q hq)

end SM
