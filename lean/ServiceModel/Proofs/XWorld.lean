import ServiceModel.Inv.Defs
/-!
`XInv` context by context, and under the state-update primitives. Apart from `activeNodup`, every clause of `XInv`
speaks of one context id: `XAt` collects the clauses at an id, and `XInv.local` reduces a change that concerns one id
`c` to the agreement of the components on all the other ids and the clauses at `c`.
-/
namespace SM
open Map

def ctxOK (x : Ctx) : Prop := 1 ≤ x.timeout ∧ (x.rep = true → x.timeout ≤ (x.freq : Int))

/-- the fields of a context that other records and counters refer to -/
structure SameCore (x' x : Ctx) : Prop where
  cons : x'.cons = x.cons
  svc : x'.svc = x.svc
  batch : x'.batch = x.batch
  bstate : x'.bstate = x.bstate
  reqN : x'.reqN = x.reqN
  respN : x'.respN = x.respN

/-- the clauses of `XInv` at the context id `c` -/
structure XAt (cfg : Config) (height : Int) (ctxs : Map CtxId Ctx) (expQ newQ : FSet (Int × CtxId))
    (expH newH : Map CtxId Int) (usedIds : List CtxId) (reqs : Map ReqId Req)
    (activeB : FSet (SvcName × Addr × Int × ReqId)) (activeI : FSet ReqId) (resps : Map ReqId Resp) (c : CtxId) : Prop where
  ctxWF : ∀ x, get ctxs c = some x → ctxOK x
  ctxCons : ∀ x, get ctxs c = some x → ¬ isModAcct cfg x.cons
  newMirror : ∀ h, (h, c) ∈ newQ ↔ get newH c = some h
  expMirror : ∀ h, (h, c) ∈ expQ ↔ get expH c = some h
  single : get newH c = none ∨ get expH c = none
  newFuture : ∀ h, get newH c = some h → height ≤ h ∧ (get ctxs c).isSome
  expFuture : ∀ h, get expH c = some h → height ≤ h ∧ (get ctxs c).isSome
  runningQ : ∀ x, get ctxs c = some x → x.state = .running → (get newH c).isSome ∨ (get expH c).isSome
  used : (get ctxs c).isSome → c ∈ usedIds
  reqCtx : ∀ r q, r.ctx = c → get reqs r = some q →
    ∃ x, get ctxs c = some x ∧ r.batch = x.batch ∧ get expH c = some q.expH
  activeReq : ∀ r, r.ctx = c → r ∈ activeI → (get reqs r).isSome
  activeMirror : ∀ svc p e r, r.ctx = c → ((svc, p, e, r) ∈ activeB ↔
    r ∈ activeI ∧ ∃ q x, get reqs r = some q ∧ get ctxs c = some x ∧ svc = x.svc ∧ p = q.prov ∧ e = q.expH)
  respReq : ∀ r, r.ctx = c → (get resps r).isSome → (get reqs r).isSome ∧ r ∉ activeI
  bRunExp : ∀ x, get ctxs c = some x → x.bstate = .running → (get expH c).isSome
  activeRunning : ∀ r, r.ctx = c → r ∈ activeI → ∃ x, get ctxs c = some x ∧ x.bstate = .running
  counts : ∀ x, get ctxs c = some x → x.bstate = .running →
    (activeI.filter (fun r => r.ctx = c)).length + x.respN ≤ x.reqN

/-- The primed components say about the context id `c` what the unprimed ones say (they may know more used ids and
    fewer responses). A field is left out where the component is the same. -/
structure SameAt (ctxs ctxs' : Map CtxId Ctx) (expQ expQ' newQ newQ' : FSet (Int × CtxId))
    (expH expH' newH newH' : Map CtxId Int) (usedIds usedIds' : List CtxId) (reqs reqs' : Map ReqId Req)
    (activeB activeB' : FSet (SvcName × Addr × Int × ReqId)) (activeI activeI' : FSet ReqId)
    (resps resps' : Map ReqId Resp) (c : CtxId) : Prop where
  ctxs : get ctxs' c = get ctxs c := by rfl
  expQ : ∀ h, (h, c) ∈ expQ' ↔ (h, c) ∈ expQ := by intros; rfl
  newQ : ∀ h, (h, c) ∈ newQ' ↔ (h, c) ∈ newQ := by intros; rfl
  expH : get expH' c = get expH c := by rfl
  newH : get newH' c = get newH c := by rfl
  used : c ∈ usedIds → c ∈ usedIds' := by exact id
  reqs : ∀ r, r.ctx = c → get reqs' r = get reqs r := by intros; rfl
  activeB : ∀ t, t.2.2.2.ctx = c → (t ∈ activeB' ↔ t ∈ activeB) := by intros; rfl
  activeI : activeI'.filter (fun r => r.ctx = c) = activeI.filter (fun r => r.ctx = c) := by rfl
  resps : ∀ r, r.ctx = c → (get resps' r).isSome → (get resps r).isSome := by exact fun _ _ h => h

section
variable {cfg : Config} {height : Int} {ctxs ctxs' : Map CtxId Ctx} {expQ expQ' newQ newQ' : FSet (Int × CtxId)}
  {expH expH' newH newH' : Map CtxId Int} {usedIds usedIds' : List CtxId} {reqs reqs' : Map ReqId Req}
  {activeB activeB' : FSet (SvcName × Addr × Int × ReqId)} {activeI activeI' : FSet ReqId} {resps resps' : Map ReqId Resp}

theorem XInv.toAt (h : XInv cfg height ctxs expQ newQ expH newH usedIds reqs activeB activeI resps) (c : CtxId) :
    XAt cfg height ctxs expQ newQ expH newH usedIds reqs activeB activeI resps c where
  ctxWF := h.ctxWF c
  ctxCons := h.ctxCons c
  newMirror := (h.newMirror · c)
  expMirror := (h.expMirror · c)
  single := h.single c
  newFuture := h.newFuture c
  expFuture := h.expFuture c
  runningQ := h.runningQ c
  used := h.used c
  reqCtx r q hr := hr ▸ h.reqCtx r q
  activeReq r _ := h.activeReq r
  activeMirror svc p e r hr := hr ▸ h.activeMirror svc p e r
  respReq r _ := h.respReq r
  bRunExp := h.bRunExp c
  activeRunning r hr := hr ▸ h.activeRunning r
  counts := h.counts c

theorem XInv.ofAt (h : ∀ c, XAt cfg height ctxs expQ newQ expH newH usedIds reqs activeB activeI resps c)
    (hn : activeI.Nodup) : XInv cfg height ctxs expQ newQ expH newH usedIds reqs activeB activeI resps where
  ctxWF c := (h c).ctxWF
  ctxCons c := (h c).ctxCons
  newMirror hh c := (h c).newMirror hh
  expMirror hh c := (h c).expMirror hh
  single c := (h c).single
  newFuture c := (h c).newFuture
  expFuture c := (h c).expFuture
  runningQ c := (h c).runningQ
  used c := (h c).used
  reqCtx r q := (h r.ctx).reqCtx r q rfl
  activeReq r := (h r.ctx).activeReq r rfl
  activeMirror svc p e r := (h r.ctx).activeMirror svc p e r rfl
  respReq r := (h r.ctx).respReq r rfl
  activeNodup := hn
  bRunExp c := (h c).bRunExp
  activeRunning r := (h r.ctx).activeRunning r rfl
  counts c := (h c).counts

theorem XAt.congr {c : CtxId}
    (s : SameAt ctxs ctxs' expQ expQ' newQ newQ' expH expH' newH newH' usedIds usedIds' reqs reqs' activeB activeB'
      activeI activeI' resps resps' c)
    (h : XAt cfg height ctxs expQ newQ expH newH usedIds reqs activeB activeI resps c) :
    XAt cfg height ctxs' expQ' newQ' expH' newH' usedIds' reqs' activeB' activeI' resps' c := by
  have hI : ∀ r, r.ctx = c → (r ∈ activeI' ↔ r ∈ activeI) := fun r hr => by
    have := congrArg (r ∈ ·) s.activeI
    simpa only [List.mem_filter, hr, decide_true, and_true, eq_iff_iff] using this
  exact {
    ctxWF := by rw [s.ctxs]; exact h.ctxWF
    ctxCons := by rw [s.ctxs]; exact h.ctxCons
    newMirror := fun hh => by rw [s.newQ, s.newH]; exact h.newMirror hh
    expMirror := fun hh => by rw [s.expQ, s.expH]; exact h.expMirror hh
    single := by rw [s.newH, s.expH]; exact h.single
    newFuture := by rw [s.newH, s.ctxs]; exact h.newFuture
    expFuture := by rw [s.expH, s.ctxs]; exact h.expFuture
    runningQ := by rw [s.newH, s.expH, s.ctxs]; exact h.runningQ
    used := by rw [s.ctxs]; exact fun hx => s.used (h.used hx)
    reqCtx := fun r q hr => by rw [s.reqs r hr, s.ctxs, s.expH]; exact h.reqCtx r q hr
    activeReq := fun r hr => by rw [s.reqs r hr, hI r hr]; exact h.activeReq r hr
    activeMirror := fun svc p e r hr => by
      rw [s.activeB _ hr, s.reqs r hr, hI r hr, s.ctxs]; exact h.activeMirror svc p e r hr
    respReq := fun r hr hp => by rw [s.reqs r hr, hI r hr]; exact h.respReq r hr (s.resps r hr hp)
    bRunExp := by rw [s.ctxs, s.expH]; exact h.bRunExp
    activeRunning := fun r hr => by rw [hI r hr, s.ctxs]; exact h.activeRunning r hr
    counts := by rw [s.ctxs, s.activeI]; exact h.counts }

theorem XInv.local (h : XInv cfg height ctxs expQ newQ expH newH usedIds reqs activeB activeI resps) (c : CtxId)
    (hs : ∀ c2, c2 ≠ c → SameAt ctxs ctxs' expQ expQ' newQ newQ' expH expH' newH newH' usedIds usedIds' reqs reqs'
      activeB activeB' activeI activeI' resps resps' c2)
    (hn : activeI'.Nodup)
    (hc : XAt cfg height ctxs' expQ' newQ' expH' newH' usedIds' reqs' activeB' activeI' resps' c) :
    XInv cfg height ctxs' expQ' newQ' expH' newH' usedIds' reqs' activeB' activeI' resps' :=
  .ofAt (fun c2 => if e : c2 = c then e ▸ hc else (h.toAt c2).congr (hs c2 e)) hn

end

variable {cfg : Config} {height : Int} {ctxs : Map CtxId Ctx} {expQ newQ : FSet (Int × CtxId)}
  {expH newH : Map CtxId Int} {usedIds : List CtxId} {reqs : Map ReqId Req}
  {activeB : FSet (SvcName × Addr × Int × ReqId)} {activeI : FSet ReqId} {resps : Map ReqId Resp}

theorem XInv.pending (h : XInv cfg height ctxs expQ newQ expH newH usedIds reqs activeB activeI resps) {r : ReqId}
    (hr : r ∈ activeI) :
    ∃ q x, get reqs r = some q ∧ get ctxs r.ctx = some x ∧ r.batch = x.batch ∧ get expH r.ctx = some q.expH := by
  obtain ⟨q, hq⟩ := Option.isSome_iff_exists.mp (h.activeReq r hr)
  exact ⟨q, (h.reqCtx r q hq).imp fun x hx => ⟨hq, hx⟩⟩

theorem XInv.running (h : XInv cfg height ctxs expQ newQ expH newH usedIds reqs activeB activeI resps) {r : ReqId}
    {x : Ctx} (hr : r ∈ activeI) (hx : get ctxs r.ctx = some x) : x.bstate = .running := by
  obtain ⟨y, hy, hrun⟩ := h.activeRunning r hr
  cases hx.symm.trans hy
  exact hrun

theorem XInv.setCtx {c : CtxId} {x x' : Ctx}
    (h : XInv cfg height ctxs expQ newQ expH newH usedIds reqs activeB activeI resps)
    (hx : Map.get ctxs c = some x) (hcore : SameCore x' x)
    (hwf : ctxOK x')
    (hrun : x'.state = .running → (Map.get newH c).isSome ∨ (Map.get expH c).isSome) :
    XInv cfg height (Map.set ctxs c x') expQ newQ expH newH usedIds reqs activeB activeI resps := by
  have hx' := get_set_same ctxs c x'
  exact h.local c (fun c2 hc => { ctxs := get_set_other _ _ _ _ (Ne.symm hc) }) h.activeNodup
    { h.toAt c with
      ctxWF := forall_set_same.mpr hwf
      ctxCons := forall_set_same.mpr (hcore.cons ▸ h.ctxCons c x hx)
      newFuture := fun hh hn => ⟨(h.newFuture c hh hn).1, by rw [hx']; rfl⟩
      expFuture := fun hh hn => ⟨(h.expFuture c hh hn).1, by rw [hx']; rfl⟩
      runningQ := forall_set_same.mpr hrun
      used := fun _ => h.used c (by rw [hx]; rfl)
      reqCtx := fun r q hr hq => by
        obtain ⟨y, hy, hb, he⟩ := (h.toAt c).reqCtx r q hr hq
        cases hx.symm.trans hy
        exact ⟨x', hx', hcore.batch ▸ hb, he⟩
      activeMirror := fun svc p e r hr => by
        rw [(h.toAt c).activeMirror svc p e r hr]
        simp only [hx, hx', Option.some.injEq, exists_and_left, exists_eq_left', hcore.svc]
      bRunExp := forall_set_same.mpr fun hb => h.bRunExp c x hx (hcore.bstate ▸ hb)
      activeRunning := fun r hr hm => by
        obtain ⟨y, hy, hb⟩ := (h.toAt c).activeRunning r hr hm
        cases hx.symm.trans hy
        exact ⟨x', hx', hcore.bstate ▸ hb⟩
      counts := forall_set_same.mpr fun hb => hcore.reqN ▸ hcore.respN ▸ h.counts c x hx (hcore.bstate ▸ hb) }

/-- queue a new batch for a context that has no scheduled event -/
theorem XInv.addNew {c : CtxId} {hh : Int}
    (h : XInv cfg height ctxs expQ newQ expH newH usedIds reqs activeB activeI resps)
    (hfut : height ≤ hh) (hctx : (Map.get ctxs c).isSome)
    (hn : Map.get newH c = none) (he : Map.get expH c = none) :
    XInv cfg height ctxs expQ (FSet.ins newQ (hh, c)) expH (Map.set newH c hh) usedIds reqs activeB activeI resps :=
  h.local c (fun c2 hc => { newQ := FSet.mem_ins_other hc, newH := get_set_other _ _ _ _ (Ne.symm hc) }) h.activeNodup
    { h.toAt c with
      newMirror := FSet.mirror_ins (h.newMirror · c) hn
      single := .inr he
      newFuture := forall_set_same.mpr ⟨hfut, hctx⟩
      runningQ := fun _ _ _ => .inl (by rw [get_set_same]; rfl) }

/-- a running context is (re)queued for a new batch -/
theorem XInv.setCtxAddNew {c : CtxId} {x x' : Ctx} {hh : Int}
    (h : XInv cfg height ctxs expQ newQ expH newH usedIds reqs activeB activeI resps)
    (hx : Map.get ctxs c = some x) (hcore : SameCore x' x) (hwf : ctxOK x')
    (hfut : height ≤ hh) (hn : Map.get newH c = none) (he : Map.get expH c = none) :
    XInv cfg height (Map.set ctxs c x') expQ (FSet.ins newQ (hh, c)) expH (Map.set newH c hh) usedIds reqs activeB activeI resps := by
  refine (h.addNew hfut (by rw [hx]; rfl) hn he).setCtx hx hcore hwf ?_
  intro _; left; simp

theorem XInv.newCtx {c : CtxId} {x : Ctx}
    (h : XInv cfg height ctxs expQ newQ expH newH usedIds reqs activeB activeI resps)
    (hfresh : c ∉ usedIds) (hwf : ctxOK x) (hcons : ¬ isModAcct cfg x.cons) (hnr : x.state ≠ .running)
    (hbs : x.bstate = .completed) :
    XInv cfg height (Map.set ctxs c x) expQ newQ expH newH (c :: usedIds) reqs activeB activeI resps := by
  have hnone : Map.get ctxs c = none := Option.not_isSome_iff_eq_none.mp fun hs => hfresh (h.used c hs)
  -- nothing refers to an id that has never been used
  have hnoreq : ∀ r q, r.ctx = c → get reqs r ≠ some q := fun r q hr hq => by
    obtain ⟨y, hy, _⟩ := h.reqCtx r q hq
    rw [hr, hnone] at hy; cases hy
  have hnoact : ∀ r, r.ctx = c → r ∉ activeI := fun r hr hm => by
    obtain ⟨q, _, hq, _⟩ := h.pending hm
    exact hnoreq r q hr hq
  exact h.local c (fun c2 hc => { ctxs := get_set_other _ _ _ _ (Ne.symm hc), used := List.mem_cons_of_mem _ })
    h.activeNodup
    { h.toAt c with
      ctxWF := forall_set_same.mpr hwf
      ctxCons := forall_set_same.mpr hcons
      newFuture := fun hh hn => ⟨(h.newFuture c hh hn).1, by rw [get_set_same]; rfl⟩
      expFuture := fun hh hn => ⟨(h.expFuture c hh hn).1, by rw [get_set_same]; rfl⟩
      runningQ := forall_set_same.mpr fun hr => absurd hr hnr
      used := fun _ => List.mem_cons_self
      reqCtx := fun r q hr hq => absurd hq (hnoreq r q hr)
      activeMirror := fun svc p e r hr =>
        ⟨fun hm => absurd ((h.activeMirror svc p e r).mp hm).1 (hnoact r hr), fun hm => absurd hm.1 (hnoact r hr)⟩
      bRunExp := forall_set_same.mpr fun hb => nomatch hbs.symm.trans hb
      activeRunning := fun r hr hm => absurd hm (hnoact r hr)
      counts := forall_set_same.mpr fun hb => nomatch hbs.symm.trans hb }

end SM
