import ServiceModel.Proofs.LiftInv
import ServiceModel.Proofs.Reachable
import ServiceModel.Proofs.NoSlash
/-!
# C12: the response callback is invoked exactly once per batch, over every history

The history is run with a ghost counter per context: the number of response callbacks (`respcb` effects) emitted for
it so far. Invariant `CbOK`: for a context created by a module, callbacks so far + (1 if a batch is in flight) =
number of batches started (the batch counter). A batch start (issue or skip) advances the counter and marks the
batch running; the only way back to `completed` is `completeBatch`, which emits exactly one callback; nothing else
emits one. Hence every started batch gets exactly one callback, at its completion.
-/
namespace SM
open Map

def Effect.isCb : Effect → Bool
  | .respcb .. => true
  | _ => false

def Effect.isCbOf (c : CtxId) : Effect → Bool
  | .respcb c' _ _ => decide (c' = c)
  | _ => false

/-- number of response callbacks for context `c` among the effects -/
def cbCount (c : CtxId) (l : List Effect) : Nat := l.countP (Effect.isCbOf c)

theorem cbCount_append (c : CtxId) (l1 l2 : List Effect) : cbCount c (l1 ++ l2) = cbCount c l1 + cbCount c l2 :=
  List.countP_append

def noCb (l : List Effect) : Prop := ∀ e ∈ l, e.isCb = false

theorem setwd_noCb (s : State) (o a : Addr) : noCb (setwd s o a).2.2 := nofun

/-- effects that only move or destroy coins are no callbacks -/
theorem cbCount_money {c : CtxId} {e : List Effect} (h : ∀ a ∈ e, a.isMoney = true) : cbCount c e = 0 :=
  List.countP_eq_zero.mpr fun a ha hc => by
    cases a with
    | respcb => cases h _ ha
    | _ => cases hc

theorem completeBatch_cb (s : State) (c0 c : CtxId) (x : Ctx) :
    cbCount c (completeBatch s c0 x).2 = if x.mod ≠ "" ∧ c0 = c then 1 else 0 := by
  unfold completeBatch cbCount
  by_cases hm : x.mod ≠ ""
  · rw [if_pos hm]
    by_cases hc : c0 = c
    · rw [if_pos ⟨hm, hc⟩]
      cases get s.ctxs c0 <;> simp [Effect.isCbOf, hc]
    · rw [if_neg (fun hh => hc hh.2)]
      cases get s.ctxs c0 <;> simp [Effect.isCbOf, hc]
  · rw [if_neg hm, if_neg (fun hh => hm hh.1)]
    simp [Effect.isCbOf]

def CbOK (s : State) (n : CtxId → Nat) : Prop :=
  (∀ c, c ∉ s.usedIds → n c = 0) ∧
  ∀ c x, get s.ctxs c = some x → x.mod ≠ "" → n c + (if x.bstate = .running then 1 else 0) = x.batch

theorem CbOK.congr {s : State} {n n' : CtxId → Nat} (h : CbOK s n) (e : ∀ c, n' c = n c) : CbOK s n' :=
  ⟨fun c hc => by rw [e c]; exact h.1 c hc, fun c x hx hm => by rw [e c]; exact h.2 c x hx hm⟩

/-- a piece of work that emits `e` keeps the count, the callbacks among `e` added to it -/
def CbStep (s : State) (e : List Effect) (s' : State) : Prop :=
  ∀ n, CbOK s n → CbOK s' (fun c => n c + cbCount c e)

theorem CbStep.refl (s : State) : CbStep s [] s := fun _ hk => hk

theorem CbStep.trans {a b c : State} {e1 e2 : List Effect} (h1 : CbStep a e1 b) (h2 : CbStep b e2 c) :
    CbStep a (e1 ++ e2) c :=
  fun n hk => (h2 _ (h1 n hk)).congr fun c => by rw [cbCount_append, Nat.add_assoc]

theorem CbStep.keep {s s' : State} {e : List Effect} (hcb : ∀ c, cbCount c e = 0)
    (hu : ∀ c, c ∈ s.usedIds → c ∈ s'.usedIds)
    (hb : ∀ c y, get s'.ctxs c = some y → get s.ctxs c = some y ∨ c ∉ s.usedIds ∧ y.batch = 0 ∧ y.bstate = .completed) :
    CbStep s e s' := by
  refine fun n hk => ⟨fun c hc => ?_, fun c y hy hm => ?_⟩ <;> dsimp only <;> rw [hcb]
  · exact hk.1 c fun h => hc (hu c h)
  · rcases hb c y hy with hx | ⟨hf, e2, e3⟩
    · exact hk.2 c y hx hm
    · rw [hk.1 c hf, e2, e3]; rfl

theorem CbStep.of_eq {s s' : State} {e : List Effect} (hcb : ∀ c, cbCount c e = 0) (hc : s'.ctxs = s.ctxs)
    (hu : s'.usedIds = s.usedIds) : CbStep s e s' :=
  .keep hcb (fun _ h => hu ▸ h) fun _ _ h => .inl (hc ▸ h)

theorem CbStep.rewrite {s s' : State} {c0 : CtxId} {x x' : Ctx} {e : List Effect} (hI : Inv s) (hx : get s.ctxs c0 = some x)
    (hc : s'.ctxs = set s.ctxs c0 x') (hu : s'.usedIds = s.usedIds) (hm : x'.mod = x.mod)
    (hcb : ∀ c, c0 ≠ c → cbCount c e = 0)
    (h0 : x.mod ≠ "" → ∀ k, k + (if x.bstate = .running then 1 else 0) = x.batch →
      k + cbCount c0 e + (if x'.bstate = .running then 1 else 0) = x'.batch) : CbStep s e s' := by
  refine fun n hk => ⟨fun c hc' => ?_, fun c y hy hmy => ?_⟩ <;> dsimp only
  · rw [hu] at hc'
    rw [hcb c fun e => hc' (e ▸ hI.x.used c0 (by rw [hx]; rfl))]
    exact hk.1 c hc'
  · rw [hc] at hy
    by_cases hcc : c0 = c
    · subst hcc
      cases (Map.get_set_same ..).symm.trans hy
      exact h0 (hm ▸ hmy) _ (hk.2 c0 x hx (hm ▸ hmy))
    · rw [Map.get_set_other _ _ _ _ hcc] at hy
      rw [hcb c hcc]
      exact hk.2 c y hy hmy

theorem CbStep.respond {s s' s2 : State} {r : ReqId} {x : Ctx} {e0 : List Effect} (hI : Inv s)
    (hx : get s.ctxs r.ctx = some x) (hact : r ∈ s.activeI) (he : ∀ c, cbCount c e0 = 0)
    (hc : s'.ctxs = set s.ctxs r.ctx (answered x)) (hu : s'.usedIds = s.usedIds) :
    CbStep s (e0 ++ lastEffs s2 r x) s' := by
  obtain ⟨x0, hx0, hrun⟩ := hI.x.activeRunning r hact
  cases hx.symm.trans hx0
  refine CbStep.rewrite hI hx hc hu (by unfold answered; split <;> rfl) (fun c hne => ?_) (fun hm k hk => ?_) <;>
    rw [cbCount_append, he] <;> unfold lastEffs
  · split
    · rw [completeBatch_cb, if_neg fun h => hne h.2]
    · rfl
  · rw [hrun, if_pos rfl] at hk
    unfold answered
    split
    · rw [completeBatch_cb, if_pos ⟨hm, rfl⟩]; exact hk
    · rw [hrun]; exact hk

theorem Msg.cbok {s s' : State} {op : Op} {e : List Effect} (hI : Inv s) (hw : WF s op) (h : Msg s op e s') :
    CbStep s e s' := by
  have hset : ∀ {c x x'} {t : State}, get s.ctxs c = some x → t.ctxs = set s.ctxs c x' → t.usedIds = s.usedIds →
      x'.mod = x.mod → x'.batch = x.batch → x'.bstate = x.bstate → CbStep s [] t :=
    fun hx hc hu h1 h2 h3 => CbStep.rewrite hI hx hc hu h1 (fun _ _ => rfl) (fun _ k hk => by rw [h2, h3]; exact hk)
  cases h with
  | call | modcreate =>
    refine CbStep.keep (fun _ => rfl) (fun _ => List.mem_cons_of_mem _) fun c y hy => ?_
    rcases Map.get_set_cases hy with ⟨rfl, rfl⟩ | hy
    · exact .inr ⟨hw.2.1, rfl, rfl⟩
    · exact .inl hy
  | respondBad _ hx hact hs =>
    exact CbStep.respond hI hx hact
      (fun _ => cbCount_money (List.forall_mem_append.mpr ⟨slash_money (.of_done hs), pay_money _ _ _⟩)) rfl rfl
  | respondGood _ hx hact => exact CbStep.respond hI hx hact (fun _ => cbCount_money (pay_money _ _ _)) rfl rfl
  | pause hx | modpause hx | kill hx | modkill hx | start hx | modstart hx => exact hset hx rfl rfl rfl rfl rfl
  | updatectx hx hu | modupdate hx hu =>
    obtain ⟨t, rfl⟩ := updThr_eq hu.thr
    exact hset hx rfl rfl rfl rfl rfl
  | update | enable | withdraw => exact .of_eq (fun _ => cbCount_money (pay_money _ _ _)) rfl rfl
  | _ => exact .of_eq (fun _ => rfl) rfl rfl

theorem Expire.cbok {s s' : State} {x : Ctx} {r : ReqId} {e : List Effect} (h : Expire s x r e s') : CbStep s e s' :=
  .of_eq (fun _ => cbCount_money h.money) (congrArg State.ctxs h.frame :) (congrArg State.usedIds h.frame :)

/-- completing a batch that its responses had not completed invokes the callback of a module context -/
theorem CbStep.close {s s' : State} {c : CtxId} {x : Ctx} (hI : Inv s) (hx : get s.ctxs c = some x)
    (hc : s'.ctxs = set s.ctxs c { x with bstate := .completed }) (hu : s'.usedIds = s.usedIds) :
    CbStep s (closeEffs s c x) s' := by
  refine CbStep.rewrite hI hx hc hu rfl (fun c2 hne => ?_) (fun hm k hk => ?_) <;> unfold closeEffs
  · split
    · rw [completeBatch_cb, if_neg fun h => hne h.2]
    · rfl
  · cases hb : x.bstate <;> rw [hb] at hk
    · rw [if_pos nofun, completeBatch_cb, if_pos ⟨hm, rfl⟩]; exact hk
    · rw [if_neg (· rfl)]; exact hk

theorem Close.cbok {s s' : State} {c : CtxId} {e : List Effect} (hI : Inv s) (h : Close s c e s') : CbStep s e s' := by
  cases h with
  | lost => exact .of_eq (fun _ => rfl) rfl rfl
  | @remove x hx =>
    -- the batch is completed, then the context removed
    exact (CbStep.close (s' := { s with ctxs := set s.ctxs c { x with bstate := .completed } }) hI hx rfl rfl).trans
      (.keep (fun _ => rfl) (fun _ h => h) fun _ _ h =>
        .inl ((Map.get_set_other _ _ _ _ (Map.get_del_some h).1).trans (Map.get_del_some h).2))
  | again hx | park hx => exact CbStep.close hI hx rfl rfl

/-- a due context has no batch in flight; if one starts, the counter advances with it -/
theorem New.cbok {s s' : State} {c : CtxId} {e : List Effect} (hI : Inv s) (hdue : (s.height, c) ∈ s.newQ)
    (h : New s c e s') : CbStep s e s' := by
  have hnew : ∀ {x x' e} {t : State}, get s.ctxs c = some x → (∀ c, cbCount c e = 0) → t.ctxs = set s.ctxs c x' →
      t.usedIds = s.usedIds → x'.mod = x.mod → x'.batch = x.batch + (if x'.bstate = .running then 1 else 0) →
      CbStep s e t :=
    fun hx he hc hu hm hb => CbStep.rewrite hI hx hc hu hm (fun _ _ => he _) fun _ k hk => by
      rw [(hI.x.dueFacts hx ((hI.x.newMirror _ _).mp hdue)).bstate] at hk
      rw [he, hb]; exact congrArg (· + _) hk
  cases h with
  | lost | drop => exact .of_eq (fun _ => rfl) rfl rfl
  | finish => exact .keep (fun _ => rfl) (fun _ h => h) fun _ _ h => .inl (Map.get_del_some h).2
  | issue hx _ _ _ hpay =>
    refine hnew hx (fun c => ?_) rfl rfl rfl rfl
    rcases hpay with ⟨_, _, rfl⟩ | ⟨_, _, rfl⟩
    · rfl
    · rw [cbCount_append, cbCount_append, cbCount_money (pay_money _ _ _)]; rfl
  | skip hx => exact hnew hx (fun _ => rfl) rfl rfl rfl rfl
  | unfunded hx => exact hnew hx (fun _ => by split <;> rfl) rfl rfl rfl rfl

theorem step_cbok (s : State) (op : Op) (h : Inv s) (hw : WF s op) (n : CtxId → Nat) (hk : CbOK s n) :
    CbOK (step s op).1 (fun c => n c + cbCount c (step s op).2.2) :=
  step_liftI CbStep.refl CbStep.trans op (fun hI hw _ hm => hm.cbok hI hw) (fun _ _ _ _ hx => hx.cbok)
    (fun hI _ _ hc => hc.cbok hI) (fun hI hdue hn => hn.cbok hI hdue)
    (fun _ _ _ => .of_eq (fun _ => rfl) rfl rfl) h hw n hk

/-- state and effects of a step that is not the end of a block -/
theorem step_msg_full (s : State) (op : Op) (hne : op.isEndblock = false) :
    ((step s op).1 = s ∧ (step s op).2.2 = []) ∨
    ((step s op).1 = (exec s op).1 ∧ (step s op).2.2 = (exec s op).2.2) := by
  cases hv : validateBasic op with
  | false => rw [step_invalid hv]; exact .inl ⟨rfl, rfl⟩
  | true =>
    rw [step_msg_eq hv hne]
    cases (exec s op).2.1 with
    | ok => exact .inr ⟨rfl, rfl⟩
    | _ => exact .inl ⟨rfl, rfl⟩

theorem withdraw_ctxs (s : State) (o p : Addr) : (withdraw s o p).1.ctxs = s.ctxs := by
  obtain he | ⟨e, s', hm, he⟩ := (withdraw_msg (s := s) (o := o) (p := p) rfl).state <;> rw [he]
  cases hm; rfl

/-- histories with the number of response callbacks invoked so far for each context -/
inductive CReach (cfg : Config) (p : Params) (h0 t0 : Int) : State → (CtxId → Nat) → Prop
  | init : CReach cfg p h0 t0 (genesis cfg p h0 t0) (fun _ => 0)
  | step {s : State} {n : CtxId → Nat} (op : Op) : CReach cfg p h0 t0 s n → WF s op →
      CReach cfg p h0 t0 (step s op).1 (fun c => n c + cbCount c (step s op).2.2)

theorem CReach.state_reachable {cfg : Config} {p : Params} {h0 t0 : Int} {s : State} {n : CtxId → Nat}
    (hr : CReach cfg p h0 t0 s n) : Reachable cfg p h0 t0 s := by
  induction hr with
  | init => exact Reachable.init
  | step op _ hw ih => exact Reachable.step op ih hw

theorem reachable_has_count {cfg : Config} {p : Params} {h0 t0 : Int} {s : State}
    (hr : Reachable cfg p h0 t0 s) : ∃ n, CReach cfg p h0 t0 s n := by
  induction hr with
  | init => exact ⟨_, CReach.init⟩
  | step op _ hw ih => obtain ⟨n, hn⟩ := ih; exact ⟨_, CReach.step op hn hw⟩

/-- C12: in every history, for every context created by a module, the number of response callbacks invoked so far
    plus one if a batch is in flight equals the number of batches started -/
theorem cbok_reachable {cfg : Config} {p : Params} {h0 t0 : Int} (hc : CfgOK cfg p) {s : State} {n : CtxId → Nat}
    (hr : CReach cfg p h0 t0 s n) : CbOK s n := by
  induction hr with
  | init => exact ⟨fun _ _ => rfl, fun _ _ hx => nomatch hx⟩
  | @step s n op hr' hw ih => exact step_cbok s op (reachable_inv hc hr'.state_reachable) hw n ih

end SM
