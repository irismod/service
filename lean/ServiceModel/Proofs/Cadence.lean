import ServiceModel.Proofs.LiftInv
import ServiceModel.Proofs.Reachable
/-!
# C10: cadence over a whole history (ghost-state theorem)

A ghost component is carried along the history: for every context the height at which its latest batch was
started (issued or skipped), kept only as long as nothing interfered with the context since — no accepted
pause / start / kill / update for it and no pause for lack of funds — and a flag `bad` that is raised when a batch
of such a context starts at a height other than `last start + frequency`. `cad_reachable`: the flag is never
raised, in any history. (The ghost never influences the state: `GReach.state_reachable`.)
-/
namespace SM
open Map

structure Ghost where
  last : Map CtxId Int
  bad : Bool

def Ghost.init : Ghost := ⟨[], false⟩

/-- the context a lifecycle operation is aimed at -/
def Op.ctxTarget : Op → Option CtxId
  | .pause c _ => some c
  | .start c _ => some c
  | .kill c _ => some c
  | .updatectx c _ _ _ _ _ _ => some c
  | .modpause c _ => some c
  | .modstart c _ => some c
  | .modkill c _ => some c
  | .modupdate c _ _ _ _ _ _ _ => some c
  | _ => none

/-- ghost step of the new-batch handler of one queue entry -/
def gNew (g : Ghost) (s : State) (c : CtxId) : Ghost :=
  if (s.height, c) ∉ s.newQ then g
  else match get s.ctxs c, get (newBatch s c).s.ctxs c with
    | some x, some y =>
      if y.batch = x.batch + 1 then
        ⟨set g.last c s.height,
         g.bad || (match get g.last c with
                   | some L => decide (s.height ≠ L + (x.freq : Int))
                   | none => false)⟩
      else ⟨del g.last c, g.bad⟩
    | _, _ => ⟨del g.last c, g.bad⟩

/-- ghost fold along `foldH newBatch` -/
def gFoldNew : Ghost → State → List CtxId → Ghost
  | g, _, [] => g
  | g, s, c :: cs =>
    match (newBatch s c).panic with
    | some _ => g
    | none => gFoldNew (gNew g s c) (newBatch s c).s cs

/-- ghost step of an operation (the expiry phase never touches the ghost) -/
def gstep (g : Ghost) (s : State) (op : Op) : Ghost :=
  match op with
  | .endblock dt =>
    (match (endBlock s dt).panic with
     | some _ => g
     | none =>
       let s1 := (foldH expireBatch s (queuedAt s.expQ s.height)).s
       gFoldNew g s1 (queuedAt s1.newQ s1.height))
  | _ =>
    match op.ctxTarget with
    | some c => if (step s op).2.1 = .ok then ⟨del g.last c, g.bad⟩ else g
    | none => g

theorem gstep_msg {op : Op} (hne : op.isEndblock = false) (g : Ghost) (s : State) :
    gstep g s op = match op.ctxTarget with
      | some c => if (step s op).2.1 = .ok then ⟨del g.last c, g.bad⟩ else g
      | none => g := by
  cases op with
  | endblock => cases hne
  | _ => rfl

/-- the tracked contexts are on schedule -/
def CadOK (s : State) (g : Ghost) : Prop :=
  g.bad = false ∧
  ∀ c L, get g.last c = some L → c ∈ s.usedIds ∧
    ∀ x, get s.ctxs c = some x → x.state = .running ∧
      (get s.expH c = some (L + x.timeout) ∨ get s.newH c = some (L + (x.freq : Int)))

/-- what `CadOK` asks of a context tracked from `L`: it runs, and the batch started at `L` is to expire at
    `L + timeout` or, after that, the next one is queued for `L + frequency` -/
def OnSched (s : State) (c : CtxId) (L : Int) : Prop :=
  c ∈ s.usedIds ∧ ∀ x, get s.ctxs c = some x → x.state = .running ∧
    (get s.expH c = some (L + x.timeout) ∨ get s.newH c = some (L + (x.freq : Int)))

theorem OnSched.due {s : State} {c : CtxId} {L H : Int} {x : Ctx} (hI : Inv s) (h : OnSched s c L)
    (hx : get s.ctxs c = some x) :
    (get s.expH c = some H → H = L + x.timeout) ∧ (get s.newH c = some H → H = L + (x.freq : Int)) := by
  have excl : ∀ {a b : Int}, get s.expH c = some a → get s.newH c = some b → False := fun ha hb => by
    rcases hI.x.single c with h1 | h1
    · rw [h1] at hb; cases hb
    · rw [h1] at ha; cases ha
  rcases (h.2 x hx).2 with he | hn
  · exact ⟨fun h' => Option.some.inj (h'.symm.trans he), fun h' => (excl he h').elim⟩
  · exact ⟨fun h' => (excl h' hn).elim, fun h' => Option.some.inj (h'.symm.trans hn)⟩

/-- nothing the schedule of `c` rests on moves, and `c` stays a used id -/
def SFrame (s s' : State) (c : CtxId) : Prop :=
  get s'.expH c = get s.expH c ∧ get s'.newH c = get s.newH c ∧
  (∀ y, get s'.ctxs c = some y → ∃ x, get s.ctxs c = some x ∧ y.state = x.state ∧ y.timeout = x.timeout ∧ y.freq = x.freq) ∧
  (c ∈ s.usedIds → c ∈ s'.usedIds)

theorem SFrame.of_get {s s' : State} {c : CtxId} (h1 : get s'.ctxs c = get s.ctxs c) (h2 : get s'.expH c = get s.expH c)
    (h3 : get s'.newH c = get s.newH c) (h4 : c ∈ s.usedIds → c ∈ s'.usedIds) : SFrame s s' c :=
  ⟨h2, h3, fun y hy => ⟨y, h1 ▸ hy, rfl, rfl, rfl⟩, h4⟩

theorem SFrame.refl (s : State) (c : CtxId) : SFrame s s c := .of_get rfl rfl rfl id

theorem SFrame.onSched {s s' : State} {c : CtxId} {L : Int} (hf : SFrame s s' c) (h : OnSched s c L) : OnSched s' c L := by
  obtain ⟨f1, f2, f3, f4⟩ := hf
  refine ⟨f4 h.1, fun y hy => ?_⟩
  obtain ⟨x, hx, e1, e2, e3⟩ := f3 y hy
  rw [f1, f2, e1, e2, e3]
  exact h.2 x hx

theorem CadOK.frame {s s' : State} {g g' : Ghost} (hk : CadOK s g) (hb : g'.bad = g.bad)
    (hl : ∀ c L, get g'.last c = some L → get g.last c = some L ∧ SFrame s s' c) : CadOK s' g' :=
  ⟨hb.trans hk.1, fun c L hL => (hl c L hL).2.onSched (hk.2 c L (hl c L hL).1)⟩

/-- fewer tracked contexts, same flag: still on schedule -/
theorem CadOK.mono {s : State} {g g' : Ghost} (hk : CadOK s g) (hb : g'.bad = g.bad)
    (hl : ∀ c L, get g'.last c = some L → get g.last c = some L) : CadOK s g' :=
  hk.frame hb fun c L hL => ⟨hl c L hL, .refl s c⟩

theorem CadOK.tick {s : State} {g : Ghost} (hk : CadOK s g) (dt : Int) :
    CadOK { s with height := s.height + 1, time := s.time + dt } g :=
  hk.frame rfl fun _ _ hL => ⟨hL, .of_get rfl rfl rfl id⟩

theorem Msg.sframe {s s' : State} {op : Op} {e : List Effect} {c : CtxId} (h : Msg s op e s') (hw : WF s op)
    (hused : c ∈ s.usedIds) (hnt : op.ctxTarget ≠ some c) : SFrame s s' c := by
  have hid : ∀ {i}, i ∉ s.usedIds → i ≠ c := fun hi e => hi (e ▸ hused)
  have hne : ∀ {c0}, op.ctxTarget = some c0 → c0 ≠ c := fun h0 e => hnt (e ▸ h0)
  cases h with
  | call | modcreate =>
    refine .of_get (get_set_other _ _ _ _ (hid hw.2.1)) rfl ?_ (List.mem_cons_of_mem _)
    dsimp only
    exact get_ite_set_other _ _ _ (hid hw.2.1)
  | respondBad _ hx | respondGood _ hx =>
    refine ⟨rfl, rfl, fun y hy => ?_, id⟩
    rcases get_set_cases hy with ⟨rfl, rfl⟩ | hy
    · exact ⟨_, hx, by unfold answered; split <;> exact ⟨rfl, rfl, rfl⟩⟩
    · exact ⟨y, hy, rfl, rfl, rfl⟩
  | pause | modpause | kill | modkill | updatectx | modupdate =>
    exact .of_get (get_set_other _ _ _ _ (hne rfl)) rfl rfl id
  | start | modstart =>
    refine .of_get (get_set_other _ _ _ _ (hne rfl)) rfl ?_ id
    exact get_ite_set_other _ _ _ (hne rfl)
  | _ => exact .of_get rfl rfl rfl id

theorem exec_sframe (s : State) (op : Op) (hw : WF s op) (c : CtxId) (hused : c ∈ s.usedIds)
    (hnt : op.ctxTarget ≠ some c) (hne : op.isEndblock = false) : SFrame s (exec s op).1 c :=
  exec_of (R := fun s s' => SFrame s s' c) op (.refl s c) (fun hm => hm.sframe hw hused hnt)
    fun e => by subst e; cases hne

theorem withdraw_ctx_ptrs (s : State) (o p : Addr) :
    (withdraw s o p).1.ctxs = s.ctxs ∧ (withdraw s o p).1.expH = s.expH ∧ (withdraw s o p).1.newH = s.newH := by
  obtain he | ⟨e, s', hm, he⟩ := (withdraw_msg (s := s) (o := o) (p := p) rfl).state <;> rw [he]
  · exact ⟨rfl, rfl, rfl⟩
  · cases hm; exact ⟨rfl, rfl, rfl⟩

theorem Expire.sframe {s s' : State} {x : Ctx} {r : ReqId} {e : List Effect} (h : Expire s x r e s') (c : CtxId) :
    SFrame s s' c := by
  cases h <;> exact .of_get rfl rfl rfl id

theorem Close.sframe {s s' : State} {c0 c : CtxId} {e : List Effect} (h : Close s c0 e s') (hc : c0 ≠ c) :
    SFrame s s' c := by
  cases h <;> refine .of_get ?_ ?_ ?_ id <;>
    simp only [get_del_other _ _ _ hc, get_set_other _ _ _ _ hc]

/-- the expiry of a batch started at `L`, which is due at `L + timeout`, queues the next one for `L + frequency` -/
theorem Close.onSched {s s' : State} {c0 c : CtxId} {e : List Effect} {L : Int} (hI : Inv s)
    (hdue : (s.height, c0) ∈ s.expQ) (h : Close s c0 e s') (ho : OnSched s c L) : OnSched s' c L := by
  by_cases hc : c0 = c
  case neg => exact (h.sframe hc).onSched ho
  subst hc
  cases h with
  | lost hx => exact ⟨ho.1, fun y hy => by cases hx.symm.trans hy⟩
  | remove => exact ⟨ho.1, fun y hy => absurd rfl (get_del_some hy).1⟩
  | park hx hp => exact ⟨ho.1, fun y _ => by rw [(ho.2 _ hx).1] at hp; cases hp⟩
  | @again x hx =>
    refine ⟨ho.1, fun y hy => ?_⟩
    cases (get_set_same ..).symm.trans hy
    refine ⟨(ho.2 x hx).1, .inr ?_⟩
    show get (set s.newH c0 _) c0 = some (L + (x.freq : Int))
    rw [get_set_same, (ho.due hI hx).1 ((hI.x.expMirror _ _).mp hdue)]
    congr 1; omega

theorem expireBatch_cad {s : State} (h : Inv s) (c : CtxId) {g : Ghost} (hk : CadOK s g) : CadOK (expireBatch s c).s g :=
  ⟨hk.1, fun k L hL => expireBatch_liftI (R := fun s _ s' => OnSched s k L → OnSched s' k L) (fun _ ho => ho)
    (fun r1 r2 ho => r2 (r1 ho)) (fun _ _ _ _ hx => (hx.sframe k).onSched) (fun hI hdue _ hc => hc.onSched hI hdue) h c
    (hk.2 k L hL)⟩

theorem New.sframe {s s' : State} {c0 c : CtxId} {e : List Effect} (h : New s c0 e s') (hc : c0 ≠ c) : SFrame s s' c := by
  cases h <;> refine .of_get ?_ ?_ ?_ id <;>
    simp only [get_del_other _ _ _ hc, get_set_other _ _ _ _ hc]

theorem newBatch_others (s : State) (c0 : CtxId) (_ : Inv s) (c : CtxId) (hc : c ≠ c0) :
    SFrame s (newBatch s c0).s c :=
  newBatch_of (R := fun _ s' => SFrame s s' c) s c0 (.refl s c) fun _ h => h.sframe hc.symm

/-- when the batch counter of the due context advances (what `gNew` looks at), a batch has started -/
theorem New.batch_started {s s' : State} {c : CtxId} {e : List Effect} {x y : Ctx} (h : New s c e s')
    (hx : get s.ctxs c = some x) (hy : get s'.ctxs c = some y) (hb : y.batch = x.batch + 1) :
    y.state = .running ∧ y.timeout = x.timeout ∧ get s'.expH c = some (s.height + x.timeout) := by
  cases h with
  | lost hx' => cases hx'.symm.trans hx
  | finish => exact absurd rfl (get_del_some hy).1
  | drop => cases hx.symm.trans hy; omega
  | issue hx' hrun | skip hx' hrun =>
    cases hx'.symm.trans hx
    cases (get_set_same ..).symm.trans hy
    exact ⟨hrun, rfl, get_set_same ..⟩
  | unfunded hx' =>
    cases hx'.symm.trans hx
    cases (get_set_same ..).symm.trans hy
    exact absurd hb (by show x.batch ≠ _; omega)

/-- the new-batch handler keeps every tracked context on schedule and never raises the flag -/
theorem newBatch_cad (s : State) (c0 : CtxId) (h : Inv s) (g : Ghost) (hk : CadOK s g) :
    CadOK (newBatch s c0).s (gNew g s c0) := by
  unfold gNew
  rcases newBatch_cases s c0 with ⟨hnd, he⟩ | ⟨hdue, _, hn⟩
  · rw [if_pos hnd, he]; exact hk
  rw [if_neg (not_not_intro hdue)]
  generalize (newBatch s c0).s = s', (newBatch s c0).effs = e at hn ⊢
  -- the other contexts are not touched, so `c0` may always be forgotten
  have hdel : CadOK s' ⟨del g.last c0, g.bad⟩ := hk.frame rfl fun c L hL =>
    ⟨(get_del_some hL).2, hn.sframe (get_del_some hL).1⟩
  split
  case h_2 => exact hdel
  rename_i x y hx hy
  split
  case isFalse => exact hdel
  rename_i hb
  obtain ⟨k1, k2, k3⟩ := hn.batch_started hx hy hb
  refine ⟨?_, fun c L hL => ?_⟩
  · -- a tracked context that is due now is due at `L + frequency`
    rw [hk.1, Bool.false_or]
    cases hgl : get g.last c0 with
    | none => rfl
    | some L => exact decide_eq_false (not_not_intro ((OnSched.due h (hk.2 c0 L hgl) hx).2 ((h.x.newMirror _ _).mp hdue)))
  · have hL : get (set g.last c0 s.height) c = some L := hL
    by_cases hc : c0 = c
    · subst hc
      rw [get_set_same] at hL; cases hL
      refine ⟨?_, fun y' hy' => ?_⟩
      · rw [show s'.usedIds = s.usedIds by cases hn <;> rfl]
        exact h.x.used c0 (by rw [hx]; rfl)
      · cases hy.symm.trans hy'
        exact ⟨k1, .inl (by rw [k3, k2])⟩
    · rw [get_set_other _ _ _ _ hc] at hL
      exact (hn.sframe hc).onSched (hk.2 c L hL)

theorem gFoldNew_cad (l : List CtxId) {s : State} {g : Ghost} (h : Inv s) (hk : CadOK s g) :
    CadOK (foldH newBatch s l).s (gFoldNew g s l) := by
  induction l generalizing s g with
  | nil => exact hk
  | cons c rest ih =>
    rw [foldH_cons]
    simp only [gFoldNew, newBatch_nopanic s c]
    exact ih (newBatch_inv s c h) (newBatch_cad s c h g hk)

/-- the two ways a step that is not the end of a block can go -/
theorem step_msg_cases (s : State) (op : Op) (hne : op.isEndblock = false) :
    ((step s op).1 = s ∧ (step s op).2.1 ≠ .ok) ∨
    ((step s op).1 = (exec s op).1 ∧ (step s op).2.1 = .ok ∧ (exec s op).2.1 = .ok) := by
  cases hv : validateBasic op with
  | false => rw [step_invalid hv]; exact .inl ⟨rfl, nofun⟩
  | true =>
    rw [step_msg_eq hv hne]
    cases hr : (exec s op).2.1 with
    | ok => exact .inr ⟨rfl, rfl, rfl⟩
    | _ => exact .inl ⟨rfl, nofun⟩

theorem msg_cad {s : State} {op : Op} (hne : op.isEndblock = false) (hw : WF s op) {g : Ghost} (hk : CadOK s g) :
    CadOK (step s op).1 (gstep g s op) := by
  rw [gstep_msg hne]
  rcases step_msg_cases s op hne with ⟨h1, h2⟩ | ⟨h1, h2, -⟩ <;> rw [h1]
  · cases op.ctxTarget with
    | none => exact hk
    | some c => dsimp only; rw [if_neg h2]; exact hk
  · cases htg : op.ctxTarget with
    | none => exact hk.frame rfl fun c L hL => ⟨hL, exec_sframe s op hw c (hk.2 c L hL).1 (by rw [htg]; nofun) hne⟩
    | some c0 =>
      dsimp only
      rw [if_pos h2]
      refine hk.frame rfl fun c L hL =>
        ⟨(get_del_some hL).2, exec_sframe s op hw c (hk.2 c L (get_del_some hL).2).1 ?_ hne⟩
      rw [htg]; exact fun e => (get_del_some hL).1 (Option.some.inj e)

/-- one step of the ghosted machine keeps every tracked context on schedule and never raises the flag -/
theorem gstep_cad (s : State) (op : Op) (h : Inv s) (hw : WF s op) (g : Ghost) (hk : CadOK s g) :
    CadOK (step s op).1 (gstep g s op) := by
  cases op with
  | endblock dt =>
    have hnp := endBlock_nopanic h dt
    obtain ⟨_, _, rfl, rfl, h1, -, he⟩ := endBlock_nopanic_eq hnp
    rw [step_endblock_ok h dt]
    simp only [gstep, hnp]
    rw [he]
    -- the expiry phase with the ghost as it is, then the due contexts with `gFoldNew`, then the clock
    obtain ⟨c1, i1⟩ := foldH_lift (R := fun s _ s' => CadOK s g → CadOK s' g) (I := Inv) (fun _ hk => hk)
      (fun r1 r2 hk => r2 (r1 hk)) (fun s c _ hs _ => ⟨expireBatch_cad hs c, expireBatch_inv s c hs⟩) h h1
    exact (gFoldNew_cad _ i1 (c1 hk)).tick dt
  | _ => exact msg_cad rfl hw hk

/-- histories of the machine with its ghost component -/
inductive GReach (cfg : Config) (p : Params) (h0 t0 : Int) : State → Ghost → Prop
  | init : GReach cfg p h0 t0 (genesis cfg p h0 t0) Ghost.init
  | step {s : State} {g : Ghost} (op : Op) : GReach cfg p h0 t0 s g → WF s op →
      GReach cfg p h0 t0 (step s op).1 (gstep g s op)

/-- the ghost component is an observer: the states of ghosted histories are exactly the reachable states -/
theorem GReach.state_reachable {cfg : Config} {p : Params} {h0 t0 : Int} {s : State} {g : Ghost}
    (hr : GReach cfg p h0 t0 s g) : Reachable cfg p h0 t0 s := by
  induction hr with
  | init => exact Reachable.init
  | step op _ hw ih => exact Reachable.step op ih hw

theorem reachable_has_ghost {cfg : Config} {p : Params} {h0 t0 : Int} {s : State}
    (hr : Reachable cfg p h0 t0 s) : ∃ g, GReach cfg p h0 t0 s g := by
  induction hr with
  | init => exact ⟨_, GReach.init⟩
  | step op _ hw ih => obtain ⟨g, hg⟩ := ih; exact ⟨_, GReach.step op hg hw⟩

/-- C10: along every history, every tracked context is on schedule and the off-cadence flag is never raised -/
theorem cad_reachable {cfg : Config} {p : Params} {h0 t0 : Int} (hc : CfgOK cfg p) {s : State} {g : Ghost}
    (hr : GReach cfg p h0 t0 s g) : CadOK s g := by
  induction hr with
  | init => exact ⟨rfl, fun _ _ hL => nomatch hL⟩
  | @step s g op hr' hw ih => exact gstep_cad s op (reachable_inv hc hr'.state_reachable) hw g ih

end SM
