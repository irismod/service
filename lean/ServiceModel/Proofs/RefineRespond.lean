import ServiceModel.Proofs.Refine
namespace SM
open Map

theorem settle_ok {s s1 : State} {r : ReqId} {svc : SvcName} {cons : Addr} {q : Req} {prov : Addr} {out : OutKind}
    {e1 : List Effect} (h : settle s r svc cons q prov out = .ok (s1, e1)) :
    (out = .malformed ∧ ∃ s0 e0 bank', slash s r svc q.prov = .done s0 e0 ∧
        bankSend s0.bank s0.cfg.escrow cons q.fee = some bank' ∧ s1 = { s0 with bank := bank' } ∧
        e1 = e0 ++ (if q.fee = 0 then [] else [.transfer s0.cfg.escrow cons q.fee])) ∨
    (out ≠ .malformed ∧ ∃ bank', bankSend s.bank s.cfg.escrow s.cfg.collector (taxOf s q.fee) = some bank' ∧
        taxOf s q.fee ≤ q.fee ∧
        s1 = { s with bank := bank', earned := addTo s.earned prov (q.fee - taxOf s q.fee),
                      ownerEarned := addTo s.ownerEarned ((get s.owner prov).getD "") (q.fee - taxOf s q.fee) } ∧
        e1 = if taxOf s q.fee = 0 then [] else [.transfer s.cfg.escrow s.cfg.collector (taxOf s q.fee)]) := by
  unfold settle at h
  split at h
  · split at h
    · cases h
    · cases h
    split at h; · cases h
    cases h
    exact .inl ⟨‹_›, _, _, _, ‹_›, ‹_›, rfl, rfl⟩
  · split at h; · cases h
    rename_i hae
    cases h
    unfold addEarned at hae; dsimp only at hae
    split at hae; · cases hae
    split at hae; · cases hae
    cases hae
    exact .inr ⟨‹_›, _, ‹_›, Nat.not_lt.mp ‹_›, rfl, rfl⟩

theorem settle_error {s : State} {r : ReqId} {svc : SvcName} {cons : Addr} {q : Req} {prov : Addr} {out : OutKind}
    {res : Res} (h : settle s r svc cons q prov out = .error res) : (∃ e, res = .err e) ∨ ∃ m, res = .panic m := by
  unfold settle at h
  split at h
  · split at h
    · cases h; exact .inr ⟨_, rfl⟩
    · cases h; exact .inr ⟨_, rfl⟩
    split at h <;> cases h
    exact .inr ⟨_, rfl⟩
  · split at h <;> cases h
    exact .inl ⟨_, rfl⟩

theorem respond_msg {s : State} {r : ReqId} {p : Addr} {code : Nat} {o : OutKind} {out : Out}
    (h : respond s r p code o = out) : Handled s (.respond r p code o) out := by
  unfold respond at h
  split at h; · subst h; exact .rej
  split at h; · subst h; exact .rej
  split at h; · subst h; exact .rej
  split at h; · subst h; exact .rej
  rename_i _ q hq _ x hx hp hact
  have hp := Decidable.not_not.mp hp
  have hact := Decidable.not_not.mp hact
  subst hp
  split at h; · subst h; exact .refused (settle_error ‹_›) fun _ e => by subst e; exact .settle hq hx hact ‹_›
  rename_i _ s1 e1 hs
  have key : out = (({ s1 with
      resps := set s1.resps r (respRec x q code o),
      activeB := FSet.rem s1.activeB (x.svc, q.prov, q.expH, r), activeI := FSet.rem s1.activeI r,
      volume := bumped s1.volume x q, ctxs := set s1.ctxs r.ctx (answered x) } : State), .ok,
      e1 ++ lastEffs { s1 with resps := set s1.resps r (respRec x q code o) } r x) := by
    by_cases hc : x.respN + 1 = x.reqN
    · rw [if_pos hc] at h; subst h; simp only [if_pos hc]; rfl
    · rw [if_neg hc] at h; subst h; simp only [if_neg hc, List.append_nil]; rfl
  subst key
  obtain ⟨rfl, s0, e0, bank', hsl, hb, rfl, rfl⟩ | ⟨hm, bank', hb, htax, rfl, rfl⟩ := settle_ok hs
  · have hf := (Slash.of_done hsl).frame
    generalize s0.bank = b0, s0.bindings = bs at hf
    have := Msg.respondBad (code := code) hq hx hact hsl (by subst hf; exact hb)
    subst hf; exact .acc this
  · exact .acc (.respondGood hq hx hact hm hb htax)

end SM
