import ServiceModel.Proofs.Lift
import ServiceModel.Proofs.NoPanic
/-!
# Lifting with the invariants in hand

`step_liftI`: from a state that satisfies `Inv`, every piece of work of a step starts in a state that satisfies `Inv`
(and the end of a block does not panic), so a reflexive transitive relation need only be shown of each piece under
`Inv` and under what the walk knows at that point: the expired request is pending, its context is stored and due; the
closed batch has no pending request left. An invariant `P` is lifted as the relation `fun s _ s' => P s → P s'`.
-/
namespace SM
open Map

/-- For a relation that does not hold between the single expired requests of a batch, or that needs a handler as a
    whole. -/
theorem endBlock_liftH {R : State → List Effect → State → Prop} (refl : ∀ s, R s [] s)
    (trans : ∀ {a b c e1 e2}, R a e1 b → R b e2 c → R a (e1 ++ e2) c)
    (hE : ∀ s c, Inv s → R s (expireBatch s c).effs (expireBatch s c).s)
    (hN : ∀ s c, Inv s → R s (newBatch s c).effs (newBatch s c).s)
    (hT : ∀ s dt, Inv s → R s [] { s with height := s.height + 1, time := s.time + dt })
    {s : State} (h : Inv s) (dt : Int) : R s (endBlock s dt).effs (endBlock s dt).s := by
  obtain ⟨_, _, rfl, rfl, h1, h2, he⟩ := endBlock_nopanic_eq (endBlock_nopanic h dt)
  rw [he, ← List.append_nil (_ ++ _), List.append_assoc]
  obtain ⟨r1, i1⟩ := foldH_lift (I := Inv) refl trans (fun s c _ hs _ => ⟨hE s c hs, expireBatch_inv s c hs⟩) h h1
  obtain ⟨r2, i2⟩ := foldH_lift (I := Inv) refl trans (fun s c _ hs _ => ⟨hN s c hs, newBatch_inv s c hs⟩) i1 h2
  exact trans r1 (trans r2 (hT _ dt i2))

section lift
variable {R : State → List Effect → State → Prop} (refl : ∀ s, R s [] s)
  (trans : ∀ {a b c e1 e2}, R a e1 b → R b e2 c → R a (e1 ++ e2) c) (op : Op)
  (hM : ∀ {s e s'}, Inv s → WF s op → validateBasic op = true → Msg s op e s' → R s e s')
  (hE : ∀ {s x r e s'}, Inv s → get s.ctxs r.ctx = some x → r ∈ s.activeI → (s.height, r.ctx) ∈ s.expQ →
    Expire s x r e s' → R s e s')
  (hC : ∀ {s c e s'}, Inv s → (s.height, c) ∈ s.expQ → (∀ r ∈ s.activeI, r.ctx ≠ c) → Close s c e s' → R s e s')
  (hN : ∀ {s c e s'}, Inv s → (s.height, c) ∈ s.newQ → New s c e s' → R s e s')
  (hT : ∀ s dt, Inv s → R s [] { s with height := s.height + 1, time := s.time + dt })
include refl trans hE hC

theorem expireBatch_liftI {s : State} (h : Inv s) (c : CtxId) : R s (expireBatch s c).effs (expireBatch s c).s :=
  (expireBatch_walk refl trans hE hC h c).2.2

include hN hT

theorem endBlock_liftI {s : State} (h : Inv s) (dt : Int) : R s (endBlock s dt).effs (endBlock s dt).s :=
  endBlock_liftH refl trans (fun _ c hs => expireBatch_liftI refl trans hE hC hs c)
    (fun s c hs => newBatch_of s c (refl s) (hN hs)) hT h dt

include hM

theorem step_liftI {s : State} (h : Inv s) (hw : WF s op) : R s (step s op).2.2 (step s op).1 := by
  rcases step_cases s op with ⟨r, _, he⟩ | ⟨_, hv, e, s', hm, he⟩ | ⟨dt, rfl, ⟨_, he⟩ | ⟨m, hp, _⟩⟩
  · rw [he]; exact refl s
  · rw [he]; exact hM h hw hv hm
  · rw [he]; exact endBlock_liftI refl trans hE hC hN hT h dt
  · rw [endBlock_nopanic h dt] at hp; cases hp

end lift

end SM
