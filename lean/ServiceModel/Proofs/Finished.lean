import ServiceModel.Proofs.Refine
/-!
# C16: what the expiry of a batch does to its context

A context that has finished — killed (state `completed`), or running but one-shot, or running with its total reached —
is removed by the expiry handler of its batch; any other context (paused, or running and repeated with batches to
come) stays, with its batch marked completed.
-/
namespace SM
open Map

/-- the context has nothing more to do once its batch in flight has expired -/
def Ctx.finished (x : Ctx) : Prop :=
  x.state = .completed ∨ (x.state = .running ∧ ¬ (x.rep = true ∧ (x.total < 0 ∨ (x.batch : Int) < x.total)))

instance (x : Ctx) : Decidable x.finished := by unfold Ctx.finished; infer_instance

theorem Close.ctx_fate {s s' : State} {c : CtxId} {e : List Effect} {x : Ctx} (hx : get s.ctxs c = some x)
    (h : Close s c e s') :
    (x.finished → get s'.ctxs c = none) ∧
    (¬ x.finished → ∃ y, get s'.ctxs c = some y ∧ y.bstate = .completed ∧ y.state = x.state ∧ y.batch = x.batch) := by
  -- `remove` is guarded by `x.finished`, word for word; `again` and `park` by conditions that exclude it
  cases h with
  | lost hn => cases hn.symm.trans hx
  | remove hx' hfin => cases hx.symm.trans hx'; exact ⟨fun _ => get_del_same _ _, fun hn => absurd hfin hn⟩
  | again hx' hrun hmore =>
    cases hx.symm.trans hx'
    refine ⟨fun hf => ?_, fun _ => ⟨_, get_set_same _ _ _, rfl, rfl, rfl⟩⟩
    rcases hf with hf | ⟨_, hf⟩
    · rw [hrun] at hf; cases hf
    · exact absurd hmore hf
  | park hx' hp =>
    cases hx.symm.trans hx'
    refine ⟨fun hf => ?_, fun _ => ⟨_, get_set_same _ _ _, rfl, rfl, rfl⟩⟩
    rcases hf with hf | ⟨hf, _⟩ <;> rw [hp] at hf <;> cases hf

/-- C16: the expiry handler of a due batch removes its context iff the context has finished; otherwise the context
    stays, with the same state and counter and its batch marked completed -/
theorem expireBatch_ctx_fate (s : State) (c : CtxId) (x : Ctx) (hq : (s.height, c) ∈ s.expQ)
    (hx : get s.ctxs c = some x) (hnp : (expireBatch s c).panic = none) :
    (x.finished → get (expireBatch s c).s.ctxs c = none) ∧
    (¬ x.finished → ∃ y, get (expireBatch s c).s.ctxs c = some y ∧ y.bstate = .completed ∧ y.state = x.state ∧
      y.batch = x.batch) := by
  rcases expireBatch_cases s c with ⟨hn, _⟩ | ⟨_, hn, _⟩ | ⟨x', _, _, hx', rfl, ⟨_, _, hp⟩ | ⟨hf, e, s', hc, he⟩⟩
  · exact absurd hq hn
  · cases hn.symm.trans hx
  · rw [hp] at hnp; cases hnp
  · cases hx.symm.trans hx'
    rw [he]; exact hc.ctx_fate (expireFold_ctx hx hf)

end SM
