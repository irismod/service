import ServiceModel.Proofs.XWorld
import ServiceModel.Proofs.Atom
/-!
# The invocation world when a request stops being pending: answered (`respond`) or expired
-/
namespace SM
open Map

variable {cfg : Config} {height : Int} {ctxs : Map CtxId Ctx} {expQ newQ : FSet (Int × CtxId)}
  {expH newH : Map CtxId Int} {usedIds : List CtxId} {reqs : Map ReqId Req}
  {activeB : FSet (SvcName × Addr × Int × ReqId)} {activeI : FSet ReqId} {resps : Map ReqId Resp}

/-- A pending request stops being pending (answered, or expired): its two markers go and `x'` updates the counters of
    the context: at most one more response with the batch still running, or the batch completed because this was the
    last answer expected. `resps'` is the response map afterwards: as it was, or with the answer to `r`. -/
theorem XInv.deactivate {r : ReqId} {q : Req} {x x' : Ctx} {resps' : Map ReqId Resp}
    (h : XInv cfg height ctxs expQ newQ expH newH usedIds reqs activeB activeI resps)
    (hq : Map.get reqs r = some q) (hx : Map.get ctxs r.ctx = some x) (hact : r ∈ activeI)
    (h1 : x'.cons = x.cons) (h2 : x'.svc = x.svc) (h3 : x'.batch = x.batch)
    (hwf : ctxOK x') (hst : x'.state = x.state) (hreqN : x'.reqN = x.reqN)
    (hcount : (x'.bstate = .running ∧ x'.respN ≤ x.respN + 1) ∨ (x'.bstate = .completed ∧ x.respN + 1 = x.reqN))
    (hresp : ∀ r2, (Map.get resps' r2).isSome → r2 = r ∨ (Map.get resps r2).isSome) :
    XInv cfg height (Map.set ctxs r.ctx x') expQ newQ expH newH usedIds reqs
      (FSet.rem activeB (x.svc, q.prov, q.expH, r)) (FSet.rem activeI r) resps' := by
  have hxb := h.running hact hx
  have hcnt := h.counts r.ctx x hx hxb
  have hfl : ((FSet.rem activeI r).filter (fun r2 => r2.ctx = r.ctx)).length + 1 =
      (activeI.filter (fun r2 => r2.ctx = r.ctx)).length :=
    FSet.length_filter_rem _ h.activeNodup hact (decide_eq_true rfl)
  have hx' := get_set_same ctxs r.ctx x'
  refine h.local r.ctx (fun c2 hc => ?_) (FSet.nodup_rem _ _ h.activeNodup)
    { h.toAt r.ctx with
      ctxWF := forall_set_same.mpr hwf
      ctxCons := forall_set_same.mpr (h1 ▸ h.ctxCons _ x hx)
      newFuture := fun hh hn => ⟨(h.newFuture _ hh hn).1, by rw [hx']; rfl⟩
      expFuture := fun hh hn => ⟨(h.expFuture _ hh hn).1, by rw [hx']; rfl⟩
      runningQ := forall_set_same.mpr fun hr => h.runningQ _ x hx (hst ▸ hr)
      used := fun _ => h.used _ (by rw [hx]; rfl)
      reqCtx := ?_
      activeReq := fun r2 _ hr2 => h.activeReq r2 ((FSet.mem_rem _ _ _).mp hr2).1
      activeMirror := ?_, respReq := ?_
      bRunExp := forall_set_same.mpr fun _ => h.bRunExp _ x hx hxb
      activeRunning := ?_, counts := ?_ }
  · exact { ctxs := get_set_other _ _ _ _ (Ne.symm hc)
            activeB := fun t ht => (FSet.mem_rem _ _ _).trans (and_iff_left fun e => hc (ht ▸ e ▸ rfl))
            activeI := FSet.filter_rem_of_not _ (decide_eq_false (Ne.symm hc))
            resps := fun r2 h2 hp => (hresp r2 hp).resolve_left fun e => hc (h2 ▸ e ▸ rfl) }
  · intro r2 q2 hc hq2
    obtain ⟨y, hy, hb, he⟩ := h.reqCtx r2 q2 hq2
    cases hx.symm.trans (hc ▸ hy)
    exact ⟨x', hx', h3 ▸ hb, hc ▸ he⟩
  · intro svc p e r2 hc
    rw [FSet.mem_rem, FSet.mem_rem, h.activeMirror, hc, hx, hx']
    constructor
    · rintro ⟨⟨hr2, q2, _, hq2, ⟨⟩, e1, e2, e3⟩, hne⟩
      refine ⟨⟨hr2, fun e => hne ?_⟩, q2, x', hq2, rfl, h2 ▸ e1, e2, e3⟩
      subst e; cases hq.symm.trans hq2; rw [e1, e2, e3]
    · rintro ⟨⟨hr2, hne⟩, q2, _, hq2, ⟨⟩, e1, e2, e3⟩
      exact ⟨⟨hr2, q2, x, hq2, rfl, h2 ▸ e1, e2, e3⟩, fun e => hne (congrArg (·.2.2.2) e)⟩
  · intro r2 _ hp
    rcases hresp r2 hp with rfl | hold
    · exact ⟨by rw [hq]; rfl, fun hm => ((FSet.mem_rem _ _ _).mp hm).2 rfl⟩
    · exact ⟨(h.respReq r2 hold).1, fun hm => (h.respReq r2 hold).2 ((FSet.mem_rem _ _ _).mp hm).1⟩
  · -- a second pending request of the context leaves the batch running: `r` is not the last one issued
    intro r2 hc hr2
    have : 0 < ((FSet.rem activeI r).filter (fun r2 => r2.ctx = r.ctx)).length :=
      List.length_pos_of_mem (List.mem_filter.mpr ⟨hr2, decide_eq_true hc⟩)
    refine ⟨x', hx', ?_⟩
    rcases hcount with ⟨hr, _⟩ | ⟨_, hl⟩
    · exact hr
    · omega
  · refine forall_set_same.mpr fun hb => ?_
    rcases hcount with ⟨_, hr⟩ | ⟨hcp, _⟩
    · rw [hreqN]; omega
    · exact nomatch hcp.symm.trans hb

theorem XInv.answer {r : ReqId} {q : Req} {x : Ctx} {rp : Resp}
    (h : XInv cfg height ctxs expQ newQ expH newH usedIds reqs activeB activeI resps)
    (hq : get reqs r = some q) (hx : get ctxs r.ctx = some x) (hact : r ∈ activeI) :
    XInv cfg height (set ctxs r.ctx (answered x)) expQ newQ expH newH usedIds reqs
      (FSet.rem activeB (x.svc, q.prov, q.expH, r)) (FSet.rem activeI r) (set resps r rp) := by
  have hrun := h.running hact hx
  have hresp : ∀ r2, (get (set resps r rp) r2).isSome → r2 = r ∨ (get resps r2).isSome := by
    intro r2 hr2
    rw [Map.get_set] at hr2
    by_cases hrr : r = r2
    · exact .inl hrr.symm
    · rw [if_neg hrr] at hr2; exact .inr hr2
  unfold answered
  split
  · exact h.deactivate hq hx hact rfl rfl rfl (h.ctxWF _ x hx) rfl rfl (.inr ⟨rfl, ‹_›⟩) hresp
  · exact h.deactivate hq hx hact rfl rfl rfl (h.ctxWF _ x hx) rfl rfl (.inl ⟨hrun, Nat.le_refl _⟩) hresp

end SM
