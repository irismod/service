import ServiceModel.Proofs.Frames
import ServiceModel.Proofs.Restart
/-!
# The model state is a faithful store: one record per key, in every map and every index

`Map` is an association list with first-match lookup and `FSet` a list; the module's store holds one value per key.
`Keys1 s`: every record map of the state has duplicate-free keys and every index set is duplicate-free, so a store scan
(`entries`, `FSet.elems`) of each is the list itself — what the raw-list monitors (`Inv/Monitors.lean`) and the export
walk over is exactly what point lookups see. (`earned` / `ownerEarned` are in `MInv` already: `earnedK`, `ownerEarnedK`.)

Every operation writes a component by `set` / `del` / `ins` / `rem` only, and each of these keeps it duplicate-free, so
each case below is the proof `k` for the pre-state with the components the operation writes replaced; for the bindings
that is `BK` of `Proofs/Frames.lean`.
-/
namespace SM
open Map

structure Keys1 (s : State) : Prop where
  defs : NodupKeys s.defs
  bindings : NodupKeys s.bindings
  owner : NodupKeys s.owner
  pricing : NodupKeys s.pricing
  withdraw : NodupKeys s.withdraw
  ctxs : NodupKeys s.ctxs
  expH : NodupKeys s.expH
  newH : NodupKeys s.newH
  reqs : NodupKeys s.reqs
  resps : NodupKeys s.resps
  volume : NodupKeys s.volume
  ownerBind : s.ownerBind.Nodup
  ownerProv : s.ownerProv.Nodup
  expQ : s.expQ.Nodup
  newQ : s.newQ.Nodup
  activeB : s.activeB.Nodup
  activeI : s.activeI.Nodup

theorem ite_both {α : Type} {P : α → Prop} {c : Prop} [Decidable c] {a b : α} (ha : P a) (hb : P b) :
    P (if c then a else b) := by
  split <;> assumption

theorem cleanBatch_keys1 (s : State) (c : CtxId) (b : Nat) (k : Keys1 s) : Keys1 (cleanBatch s c b) :=
  { k with reqs := nodupKeys_foldl_del _ _ k.reqs, resps := nodupKeys_foldl_del _ _ k.resps }

theorem issueReqs_keys1 (c : CtxId) (x : Ctx) (el : List (Addr × Nat)) : ∀ (s : State) (i : Nat),
    Keys1 s → Keys1 (issueReqs s c x el i) := by
  induction el with
  | nil => intro s i k; exact k
  | cons hd t ih =>
    intro s i k
    exact ih _ _ { k with reqs := nodupKeys_set _ _ _ k.reqs, activeB := FSet.nodup_ins _ _ k.activeB,
                          activeI := FSet.nodup_ins _ _ k.activeI }

theorem Msg.keys1 {s s' : State} {op : Op} {e : List Effect} (h : Msg s op e s') (k : Keys1 s) : Keys1 s' := by
  have kb := h.bk k.bindings
  cases h with
  | fund | xfer | withdraw => exact { k with }
  | define => exact { k with defs := nodupKeys_set _ _ _ k.defs }
  | bind =>
    exact { k with bindings := kb, ownerBind := FSet.nodup_ins _ _ k.ownerBind, pricing := nodupKeys_set _ _ _ k.pricing,
                   owner := ite_both (nodupKeys_set _ _ _ k.owner) k.owner,
                   ownerProv := ite_both (FSet.nodup_ins _ _ k.ownerProv) k.ownerProv }
  | update => exact { k with bindings := kb, pricing := ite_both (nodupKeys_set _ _ _ k.pricing) k.pricing }
  | setwd => exact { k with withdraw := nodupKeys_set _ _ _ k.withdraw }
  | disable | enable | refund => exact { k with bindings := kb }
  | call =>
    exact { k with ctxs := nodupKeys_set _ _ _ k.ctxs, newQ := FSet.nodup_ins _ _ k.newQ,
                   newH := nodupKeys_set _ _ _ k.newH }
  | modcreate | start | modstart =>
    exact { k with ctxs := nodupKeys_set _ _ _ k.ctxs, newQ := ite_both (FSet.nodup_ins _ _ k.newQ) k.newQ,
                   newH := ite_both (nodupKeys_set _ _ _ k.newH) k.newH }
  | respondBad | respondGood =>
    exact { k with bindings := kb, resps := nodupKeys_set _ _ _ k.resps, volume := nodupKeys_set _ _ _ k.volume,
                   activeB := FSet.nodup_rem _ _ k.activeB, activeI := FSet.nodup_rem _ _ k.activeI,
                   ctxs := nodupKeys_set _ _ _ k.ctxs }
  | pause | modpause | kill | modkill | updatectx | modupdate => exact { k with ctxs := nodupKeys_set _ _ _ k.ctxs }

theorem Expire.keys1 {s s' : State} {x : Ctx} {r : ReqId} {e : List Effect} (h : Expire s x r e s') (k : Keys1 s) :
    Keys1 s' := by
  have kb := BK.of_block h.block k.bindings
  cases h with
  | lost => exact { k with activeI := FSet.nodup_rem _ _ k.activeI }
  | super | paid | unpaid =>
    exact { k with bindings := kb, activeB := FSet.nodup_rem _ _ k.activeB, activeI := FSet.nodup_rem _ _ k.activeI }

theorem Close.keys1 {s s' : State} {c : CtxId} {e : List Effect} (h : Close s c e s') (k : Keys1 s) : Keys1 s' := by
  cases h with
  | lost => exact { k with expQ := FSet.nodup_rem _ _ k.expQ, expH := nodupKeys_del _ _ k.expH }
  | @remove x =>
    exact { cleanBatch_keys1 s c x.batch k with
            expQ := FSet.nodup_rem _ _ k.expQ, expH := nodupKeys_del _ _ k.expH,
            ctxs := nodupKeys_del _ _ k.ctxs }
  | @again x =>
    exact { cleanBatch_keys1 s c x.batch k with
            expQ := FSet.nodup_rem _ _ k.expQ, expH := nodupKeys_del _ _ k.expH, ctxs := nodupKeys_set _ _ _ k.ctxs,
            newQ := FSet.nodup_ins _ _ k.newQ, newH := nodupKeys_set _ _ _ k.newH }
  | @park x =>
    exact { cleanBatch_keys1 s c x.batch k with
            expQ := FSet.nodup_rem _ _ k.expQ, expH := nodupKeys_del _ _ k.expH, ctxs := nodupKeys_set _ _ _ k.ctxs }

theorem New.keys1 {s s' : State} {c : CtxId} {e : List Effect} (h : New s c e s') (k : Keys1 s) : Keys1 s' := by
  cases h with
  | lost | drop => exact { k with newQ := FSet.nodup_rem _ _ k.newQ, newH := nodupKeys_del _ _ k.newH }
  | finish =>
    exact { k with newQ := FSet.nodup_rem _ _ k.newQ, newH := nodupKeys_del _ _ k.newH,
                   ctxs := nodupKeys_del _ _ k.ctxs }
  | unfunded =>
    exact { k with newQ := FSet.nodup_rem _ _ k.newQ, newH := nodupKeys_del _ _ k.newH,
                   ctxs := nodupKeys_set _ _ _ k.ctxs }
  | skip =>
    exact { k with newQ := FSet.nodup_rem _ _ k.newQ, newH := nodupKeys_del _ _ k.newH,
                   ctxs := nodupKeys_set _ _ _ k.ctxs,
                   expQ := FSet.nodup_ins _ _ k.expQ, expH := nodupKeys_set _ _ _ k.expH }
  | @issue x bank' =>
    have ki := issueReqs_keys1 c x (eligible s x) { s with bank := bank' } 0 { k with }
    exact { k with newQ := FSet.nodup_rem _ _ k.newQ, newH := nodupKeys_del _ _ k.newH,
                   ctxs := nodupKeys_set _ _ _ k.ctxs,
                   expQ := FSet.nodup_ins _ _ k.expQ, expH := nodupKeys_set _ _ _ k.expH,
                   reqs := ki.reqs, activeB := ki.activeB, activeI := ki.activeI }

theorem step_keys1 (s : State) (op : Op) : Keys1 s → Keys1 (step s op).1 :=
  step_lift (R := fun s s' => Keys1 s → Keys1 s') (fun _ k => k) (fun h1 h2 k => h2 (h1 k)) op
    (fun _ h => h.keys1) (fun _ _ h => h.keys1) (fun _ h => h.keys1) (fun _ h => h.keys1) (fun _ _ k => { k with }) s

theorem keys1_genesis (cfg : Config) (p : Params) (h0 t0 : Int) : Keys1 (genesis cfg p h0 t0) := by
  constructor <;> first | exact nodupKeys_nil | exact List.nodup_nil

/-! ### the import builds a faithful store from any genesis -/
theorem importG_keys1 {cfg : Config} {g : GenesisState} {height time : Int} {s' : State}
    (h : importG cfg g height time = some s') : Keys1 s' := by
  obtain ⟨-, -, rfl⟩ := importG_eq.mp h
  exact { keys1_genesis cfg g.params height time with
    defs := nodupKeys_foldl_set _ _ _ _ nodupKeys_nil, bindings := nodupKeys_foldl_set _ _ _ _ nodupKeys_nil,
    ownerBind := FSet.nodup_foldl_ins _ _ _ List.nodup_nil, owner := nodupKeys_foldl_set _ _ _ _ nodupKeys_nil,
    ownerProv := FSet.nodup_foldl_ins _ _ _ List.nodup_nil, pricing := nodupKeys_foldl_set _ _ _ _ nodupKeys_nil,
    withdraw := nodupKeys_foldl_set _ _ _ _ nodupKeys_nil, ctxs := nodupKeys_foldl_set _ _ _ _ nodupKeys_nil }

theorem restart_keys1 {s s' : State} {height time : Int} (h : restart s height time = some s') : Keys1 s' := by
  unfold restart at h
  split at h; · cases h
  split at h <;> cases h
  rename_i himp
  exact { importG_keys1 himp with }

/-- every state of every chain — any operations, any number of restarts — is a faithful store -/
theorem keys1_reachableR {cfg : Config} {p : Params} {h0 t0 : Int} {s : State} (hr : ReachableR cfg p h0 t0 s) :
    Keys1 s := by
  induction hr with
  | init => exact keys1_genesis _ _ _ _
  | step op _ _ ih => exact step_keys1 _ op ih
  | restart height time _ hre _ => exact restart_keys1 hre

theorem keys1_reachable {cfg : Config} {p : Params} {h0 t0 : Int} {s : State} (hr : Reachable cfg p h0 t0 s) :
    Keys1 s := keys1_reachableR hr.toR

end SM
