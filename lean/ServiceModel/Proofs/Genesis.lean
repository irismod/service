import ServiceModel.Proofs.Refine
import ServiceModel.Proofs.MWorld
import ServiceModel.Proofs.XWorld
import ServiceModel.Model.Genesis
/-!
# Zero-height preparation, export and import: lemmas for `Properties/C19.lean`

`prep` is two loops of refunds out of the escrow (`foldH_refund`, `prep_run`); `importBindings` and `importG` write
every component of the fresh state by a fold over the genesis (`importBindings_eq`, `importG_eq`), and the indexes so
rebuilt satisfy the invariant of the bindings world again (`BInv.import`).
-/
namespace SM
open Map

/-- one step of a refund loop, for `n` coins owed to `a`: the transfer out of the escrow, a panic that leaves the state
    alone when the bank refuses, or nothing at all (a pending marker without a request) -/
inductive RefundStep (s : State) (a : Addr) (n : Nat) : HRes → Prop
  | skip : n = 0 → RefundStep s a n ⟨s, [], none⟩
  | paid {b : Bank} : bankSend s.bank s.cfg.escrow a n = some b →
      RefundStep s a n ⟨{ s with bank := b }, if n = 0 then [] else [.transfer s.cfg.escrow a n], none⟩
  | refused {m : String} : bankSend s.bank s.cfg.escrow a n = none → RefundStep s a n ⟨s, [], some m⟩

/-- `b'` and `es` are the bank and the effects after the refunds `ps` were paid out of the account `esc` of the bank `b`,
    one after the other (a refund of no coins credits nobody and leaves no transfer) -/
structure Refunded (esc : Addr) (ps : List (Addr × Nat)) (b b' : Bank) (es : List Effect) : Prop where
  bal : ∀ x, (∀ p ∈ ps, p.2 ≠ 0 → p.1 ≠ x) →
    balOf b'.bal x + (if x = esc then (ps.map (·.2)).sum else 0) = balOf b.bal x
  effs : ∀ p ∈ ps, p.2 ≠ 0 → .transfer esc p.1 p.2 ∈ es

theorem Refunded.nil (esc : Addr) (b : Bank) : Refunded esc [] b b [] :=
  ⟨fun x _ => by split <;> rfl, nofun⟩

theorem Refunded.append {esc : Addr} {ps qs : List (Addr × Nat)} {b b1 b2 : Bank} {e1 e2 : List Effect}
    (h1 : Refunded esc ps b b1 e1) (h2 : Refunded esc qs b1 b2 e2) : Refunded esc (ps ++ qs) b b2 (e1 ++ e2) := by
  refine ⟨fun x hx => ?_, fun p hp hn => ?_⟩
  · have a1 := h1.bal x (fun p hp => hx p (List.mem_append_left _ hp))
    have a2 := h2.bal x (fun p hp => hx p (List.mem_append_right _ hp))
    rw [List.map_append, List.sum_append]
    split
    · rw [if_pos ‹_›] at a1 a2; omega
    · rw [if_neg ‹_›] at a1 a2; omega
  · rcases List.mem_append.mp hp with hp | hp
    · exact List.mem_append_left _ (h1.effs p hp hn)
    · exact List.mem_append_right _ (h2.effs p hp hn)

theorem RefundStep.nopanic {s : State} {a : Addr} {n : Nat} {r : HRes} (h : RefundStep s a n r)
    (hle : n ≤ balOf s.bank.bal s.cfg.escrow) : r.panic = none := by
  cases h with
  | skip | paid => rfl
  | refused hb =>
    have := (bankSend_some_iff s.bank s.cfg.escrow a n).mpr hle
    rw [hb] at this; cases this

theorem RefundStep.out {s : State} {a : Addr} {n : Nat} {r : HRes} (h : RefundStep s a n r) (hnp : r.panic = none) :
    ∃ b, r = ⟨{ s with bank := b }, r.effs, none⟩ ∧ Refunded s.cfg.escrow [(a, n)] s.bank b r.effs := by
  cases h with
  | skip h0 =>
    subst h0
    exact ⟨s.bank, rfl, fun x _ => by split <;> rfl, fun p hp hn => absurd (List.mem_singleton.mp hp ▸ rfl) hn⟩
  | @paid b hb =>
    refine ⟨b, rfl, fun x hx => ?_, fun p hp hn => ?_⟩
    · have hle := bankSend_le hb
      have hx : n ≠ 0 → a ≠ x := hx _ (List.mem_singleton_self _)
      rw [bankSend_bal hb x]
      simp only [List.map_cons, List.map_nil, List.sum_cons, List.sum_nil, Nat.add_zero]
      by_cases hn : n = 0
      · subst hn; simp only [Nat.sub_zero, Nat.add_zero, ite_self]
      · have hax : ¬ x = a := fun e => hx hn e.symm
        by_cases hxe : x = s.cfg.escrow
        · subst hxe
          rw [if_neg (fun e => hax e), if_pos rfl, if_pos rfl]; omega
        · simp only [if_neg hxe, if_neg hax, ite_self, Nat.add_zero]
    · cases List.mem_singleton.mp hp
      simp only [if_neg hn, List.mem_singleton]
  | refused => cases hnp

/-- what `refundFee` owes for an entry of the index of pending requests, and to whom -/
def entryPay (s : State) (e : SvcName × Addr × Int × ReqId) : Addr × Nat :=
  match reqView s e.2.2.2 with
  | some v => (v.cons, v.fee)
  | none => ("", 0)

theorem refundFee_refund (s : State) (b : Bank) (e : SvcName × Addr × Int × ReqId) :
    RefundStep { s with bank := b } (entryPay s e).1 (entryPay s e).2 (refundFee { s with bank := b } e) := by
  unfold refundFee entryPay
  rw [show reqView { s with bank := b } e.2.2.2 = reqView s e.2.2.2 from rfl]
  cases reqView s e.2.2.2 with
  | none => exact .skip rfl
  | some v =>
    dsimp only
    split
    · exact .refused ‹_›
    · exact .paid ‹_›

theorem refundEarned_refund (s : State) (b : Bank) (e : Addr × Nat) :
    RefundStep { s with bank := b } e.1 e.2 (refundEarned { s with bank := b } e) := by
  unfold refundEarned
  split
  · exact .refused ‹_›
  · exact .paid ‹_›

/-- not an instance of `foldH_lift`: the absence of a panic is a conclusion, and both halves speak of the list -/
theorem foldH_refund {α : Type} {h : State → α → HRes} {s : State} {pay : α → Addr × Nat}
    (hh : ∀ b e, RefundStep { s with bank := b } (pay e).1 (pay e).2 (h { s with bank := b } e)) (L : List α)
    {t : State} {b : Bank} (ht : t = { s with bank := b }) :
    ((∀ p ∈ L.map pay, p.2 ≠ 0 → p.1 ≠ s.cfg.escrow) → ((L.map pay).map (·.2)).sum ≤ balOf b.bal s.cfg.escrow →
      (foldH h t L).panic = none) ∧
    ((foldH h t L).panic = none →
      ∃ b', (foldH h t L).s = { s with bank := b' } ∧ Refunded s.cfg.escrow (L.map pay) b b' (foldH h t L).effs) := by
  subst ht
  induction L generalizing b with
  | nil => exact ⟨fun _ _ => rfl, fun _ => ⟨b, rfl, .nil _ _⟩⟩
  | cons e l ih =>
    have hr := hh b e
    constructor
    · intro hd hsum
      simp only [List.map_cons, List.sum_cons] at hsum
      have h1 := hr.nopanic (Nat.le_trans (Nat.le_add_right _ _) hsum)
      obtain ⟨b1, he, hb⟩ := hr.out h1
      have : balOf b1.bal s.cfg.escrow + (pay e).2 = balOf b.bal s.cfg.escrow := by
        have := hb.bal s.cfg.escrow (fun p hp => hd p (List.mem_cons.mpr (.inl (List.mem_singleton.mp hp))))
        rwa [if_pos rfl, List.map_singleton, List.sum_singleton] at this
      rw [foldH_cons, he]
      exact (ih (b := b1)).1 (fun p hp => hd p (List.mem_cons_of_mem _ hp)) (by omega)
    · intro hnp
      obtain ⟨h1, h2, h3⟩ := foldH_cons_nopanic _ _ _ _ hnp
      obtain ⟨b1, he, hb⟩ := hr.out h1
      rw [h3]
      rw [he] at h2
      obtain ⟨b', hs, hR⟩ := (ih (b := b1)).2 h2
      rw [he]
      exact ⟨b', hs, hb.append hR⟩

/-- the refunds of the preparation, in the order it makes them -/
def prepRefunds (s : State) : List (Addr × Nat) := (FSet.elems s.activeB).map (entryPay s) ++ entries s.earned

/-- the only place where `prep` is unfolded -/
theorem prep_run (s : State) :
    ((∀ p ∈ prepRefunds s, p.2 ≠ 0 → p.1 ≠ s.cfg.escrow) → ((prepRefunds s).map (·.2)).sum ≤ balOf s.bank.bal s.cfg.escrow →
      (prep s).panic = none) ∧
    ((prep s).panic = none →
      (prep s).s = { s with bank := (prep s).s.bank, ctxs := s.ctxs.map fun e => (e.1, resetCtx e.2) } ∧
      Refunded s.cfg.escrow (prepRefunds s) s.bank (prep s).s.bank (prep s).effs) ∧
    ((prep s).panic ≠ none → (prep s).s = s) := by
  obtain ⟨F1, F2⟩ := foldH_refund (refundFee_refund s) (FSet.elems s.activeB) (t := s) (b := s.bank) rfl
  unfold prep prepRefunds
  dsimp only
  cases h1 : (foldH refundFee s (FSet.elems s.activeB)).panic with
  | some m =>
    refine ⟨fun hd hsum => ?_, nofun, fun _ => rfl⟩
    rw [List.map_append, List.sum_append] at hsum
    rw [F1 (fun p hp => hd p (List.mem_append_left _ hp)) (by omega)] at h1
    cases h1
  | none =>
    obtain ⟨b1, hs1, R1⟩ := F2 h1
    have he : (foldH refundFee s (FSet.elems s.activeB)).s.earned = s.earned := by rw [hs1]
    obtain ⟨E1, E2⟩ := foldH_refund (pay := id) (refundEarned_refund s) (entries s.earned) hs1
    rw [List.map_id] at E1 E2
    rw [he]
    cases h2 : (foldH refundEarned (foldH refundFee s (FSet.elems s.activeB)).s (entries s.earned)).panic with
    | some m =>
      refine ⟨fun hd hsum => ?_, nofun, fun _ => rfl⟩
      rw [List.map_append, List.sum_append] at hsum
      have := R1.bal s.cfg.escrow (fun p hp => hd p (List.mem_append_left _ hp))
      rw [if_pos rfl] at this
      rw [E1 (fun p hp => hd p (List.mem_append_right _ hp)) (by omega)] at h2
      cases h2
    | none =>
      obtain ⟨b2, hs2, R2⟩ := E2 h2
      refine ⟨fun _ _ => rfl, fun _ => ?_, fun h => absurd rfl h⟩
      rw [hs2]
      exact ⟨rfl, R1.append R2⟩

theorem prep_state {s : State} (hnp : (prep s).panic = none) :
    (prep s).s = { s with bank := (prep s).s.bank, ctxs := s.ctxs.map fun e => (e.1, resetCtx e.2) } :=
  ((prep_run s).2.1 hnp).1

theorem prep_frame (s : State) : (prep s).s = { s with bank := (prep s).s.bank, ctxs := (prep s).s.ctxs } := by
  cases hp : (prep s).panic with
  | some m => rw [(prep_run s).2.2 (by rw [hp]; nofun)]
  | none => rw [prep_state hp]

theorem prep_ctxs {s : State} (hnp : (prep s).panic = none) (c : CtxId) :
    get (prep s).s.ctxs c = (get s.ctxs c).map resetCtx := by
  rw [prep_state hnp]; exact get_mapVals resetCtx s.ctxs c

theorem prep_export {s : State} (hnp : (prep s).panic = none) :
    exportG (prep s).s = { params := s.params, defs := entries s.defs, bindings := entries s.bindings,
                           withdraw := entries s.withdraw,
                           ctxs := entries (s.ctxs.map fun e => (e.1, resetCtx e.2)) } := by
  rw [prep_state hnp]; rfl

theorem prepRefunds_dest {s : State} {x : Addr} (hcons : ∀ r v, reqView s r = some v → v.cons ≠ x)
    (hearn : ∀ p, (get s.earned p).isSome → p ≠ x) : ∀ p ∈ prepRefunds s, p.2 ≠ 0 → p.1 ≠ x := by
  intro p hp hn
  rcases List.mem_append.mp hp with hp | hp
  · obtain ⟨e, _, rfl⟩ := List.mem_map.mp hp
    unfold entryPay at hn ⊢
    cases hv : reqView s e.2.2.2 with
    | none => rw [hv] at hn; exact absurd rfl hn
    | some v => exact hcons _ v hv
  · obtain ⟨a, n⟩ := p
    exact hearn a (by rw [(mem_entries _ _ _).mp hp]; rfl)

/-- an account that is neither the escrow, nor the consumer of a request, nor an earner keeps its balance
    through the zero-height preparation -/
theorem prep_bal_other {s : State} (a : Addr) (ha : a ≠ s.cfg.escrow)
    (hcons : ∀ r v, reqView s r = some v → v.cons ≠ a) (hearn : ∀ p, (get s.earned p).isSome → p ≠ a) :
    balOf (prep s).s.bank.bal a = balOf s.bank.bal a := by
  cases hp : (prep s).panic with
  | some m => rw [(prep_run s).2.2 (by rw [hp]; nofun)]
  | none =>
    have := ((prep_run s).2.1 hp).2.bal a (prepRefunds_dest hcons hearn)
    rwa [if_neg ha, Nat.add_zero] at this

/-! ### in a state that satisfies the invariants the refunds are what the escrow holds -/
theorem reqView_some {s : State} {r : ReqId} {v : ReqView} (h : reqView s r = some v) :
    ∃ q x, get s.reqs r = some q ∧ get s.ctxs r.ctx = some x ∧ v.cons = x.cons ∧ v.fee = q.fee := by
  unfold reqView at h
  split at h; · cases h
  split at h <;> cases h
  exact ⟨_, _, ‹_›, ‹_›, rfl, rfl⟩

theorem reqView_of {s : State} {r : ReqId} {q : Req} {x : Ctx} (hq : get s.reqs r = some q)
    (hx : get s.ctxs r.ctx = some x) :
    reqView s r = some { id := r, svc := x.svc, prov := q.prov, cons := x.cons, fee := q.fee, super := x.super,
                         reqH := q.reqH, expH := q.expH } := by
  simp only [reqView, hq, hx]

theorem entryPay_of {s : State} {e : SvcName × Addr × Int × ReqId} {q : Req} {x : Ctx}
    (hq : get s.reqs e.2.2.2 = some q) (hx : get s.ctxs e.2.2.2.ctx = some x) : entryPay s e = (x.cons, q.fee) := by
  simp only [entryPay, reqView_of hq hx]

theorem reqView_cons_not_mod {s : State} (h : Inv s) (r : ReqId) (v : ReqView) (hv : reqView s r = some v) :
    ¬ isModAcct s.cfg v.cons := by
  obtain ⟨q, x, _, hx, hc, _⟩ := reqView_some hv
  rw [hc]; exact h.x.ctxCons r.ctx x hx

/-- the index 0x14 lists each pending request once -/
theorem activeB_ids_perm {s : State} (h : InvX s) :
    List.Perm ((FSet.elems s.activeB).map (·.2.2.2)) s.activeI := by
  apply (List.perm_ext_iff_of_nodup ?_ h.activeNodup).mpr
  · intro r
    simp only [List.mem_map, FSet.mem_elems]
    constructor
    · rintro ⟨⟨svc, p, e, r'⟩, hm, rfl⟩
      exact ((h.activeMirror svc p e r').mp hm).1
    · intro hr
      obtain ⟨q, x, hq, hx, -, -⟩ := h.pending hr
      exact ⟨(x.svc, q.prov, q.expH, r), (h.activeMirror _ _ _ _).mpr ⟨hr, q, x, hq, hx, rfl, rfl, rfl⟩, rfl⟩
  · -- two entries of the index with the same request id are the same entry
    rw [List.Nodup, List.pairwise_map]
    refine List.Pairwise.imp_of_mem ?_ (FSet.nodup_elems s.activeB)
    intro a b ha hb hab heq
    apply hab
    obtain ⟨sa, pa, ea, ra⟩ := a
    obtain ⟨sb, pb, eb, rb⟩ := b
    subst heq
    obtain ⟨_, q1, x1, hq1, hx1, e1, e2, e3⟩ := (h.activeMirror sa pa ea ra).mp ((FSet.mem_elems _ _).mp ha)
    obtain ⟨_, q2, x2, hq2, hx2, f1, f2, f3⟩ := (h.activeMirror sb pb eb ra).mp ((FSet.mem_elems _ _).mp hb)
    rw [hq1] at hq2; injection hq2 with hq2; subst hq2
    rw [hx1] at hx2; injection hx2 with hx2; subst hx2
    rw [e1, e2, e3, f1, f2, f3]

theorem prepRefunds_sum {s : State} (h : Inv s) : ((prepRefunds s).map (·.2)).sum = balOf s.bank.bal s.cfg.escrow := by
  have h1 : ((FSet.elems s.activeB).map (entryPay s)).map (·.2) =
      ((FSet.elems s.activeB).map (·.2.2.2)).map (feeAt s.reqs) := by
    rw [List.map_map, List.map_map]
    apply List.map_congr_left
    intro e he
    obtain ⟨_, q, x, hq, hx, _⟩ := (h.x.activeMirror e.1 e.2.1 e.2.2.1 e.2.2.2).mp ((FSet.mem_elems _ _).mp he)
    simp only [Function.comp, entryPay_of hq hx, feeAt, hq]
  rw [prepRefunds, List.map_append, List.sum_append, h1, ((activeB_ids_perm h.x).map _).sum_nat, ← feeSum_eq,
    entries_of_nodupKeys _ h.m.earnedK, ← total_eq_sum fun n => n]
  exact h.m.escrow.symm

/-- what `prep` does in a state that satisfies the invariants: it cannot fail, the escrow ends empty, every pending fee
    went back to its consumer and every earning to its provider -/
theorem prep_spec {s : State} (h : Inv s) (hprov : ∀ p, (get s.earned p).isSome → p ≠ s.cfg.escrow) :
    (prep s).panic = none ∧ balOf (prep s).s.bank.bal s.cfg.escrow = 0 ∧
      ∀ p ∈ prepRefunds s, p.2 ≠ 0 → Effect.transfer s.cfg.escrow p.1 p.2 ∈ (prep s).effs := by
  have hd := prepRefunds_dest (fun r v hv e => reqView_cons_not_mod h r v hv (.inl e)) hprov
  have hnp := (prep_run s).1 hd (Nat.le_of_eq (prepRefunds_sum h))
  obtain ⟨_, R⟩ := (prep_run s).2.1 hnp
  have := R.bal _ hd
  rw [if_pos rfl, prepRefunds_sum h] at this
  exact ⟨hnp, by omega, R.effs⟩

/-- the price terms of the bindings whose text parses -/
def parsedPrices (L : List ((SvcName × Addr) × Binding)) : Map (SvcName × Addr) Pricing :=
  L.filterMap fun e => match parsePricing e.2.text with
    | .ok p => some (e.1, p)
    | _ => none

theorem mem_parsedPrices {L : List ((SvcName × Addr) × Binding)} {k : SvcName × Addr} {p : Pricing} :
    (k, p) ∈ parsedPrices L ↔ ∃ b, (k, b) ∈ L ∧ parsePricing b.text = .ok p := by
  simp only [parsedPrices, List.mem_filterMap]
  constructor
  · rintro ⟨⟨k', b⟩, hm, h⟩
    split at h <;> cases h
    exact ⟨b, hm, ‹_›⟩
  · rintro ⟨b, hm, h⟩
    exact ⟨(k, b), hm, by simp only [h]⟩

theorem importBindings_eq {L : List ((SvcName × Addr) × Binding)} {s1 s2 : State} :
    importBindings s1 L = some s2 ↔
    (∀ e ∈ L, ∃ pr, parsePricing e.2.text = .ok pr) ∧
    s2 = { s1 with bindings := L.foldl (fun m e => Map.set m e.1 e.2) s1.bindings,
                   ownerBind := L.foldl (fun m e => FSet.ins m (e.2.owner, e.1.1, e.1.2)) s1.ownerBind,
                   owner := L.foldl (fun m e => Map.set m e.1.2 e.2.owner) s1.owner,
                   ownerProv := L.foldl (fun m e => FSet.ins m (e.2.owner, e.1.2)) s1.ownerProv,
                   pricing := (parsedPrices L).foldl (fun m e => Map.set m e.1 e.2) s1.pricing } := by
  induction L generalizing s1 with
  | nil => exact ⟨fun h => ⟨nofun, (Option.some.inj h).symm⟩, fun h => h.2 ▸ rfl⟩
  | cons e t ih =>
    unfold importBindings importBinding
    cases hp : parsePricing e.2.text with
    | ok p =>
      rw [ih, List.forall_mem_cons]
      simp only [parsedPrices, List.filterMap_cons, hp, List.foldl_cons]
      exact ⟨fun h => ⟨⟨⟨p, rfl⟩, h.1⟩, h.2⟩, fun h => ⟨h.1.2, h.2⟩⟩
    | _ =>
      exact ⟨nofun, fun h => by obtain ⟨pr, h⟩ := h.1 e (List.mem_cons_self ..); rw [hp] at h; cases h⟩

theorem importG_eq {cfg : Config} {g : GenesisState} {height time : Int} {s' : State} :
    importG cfg g height time = some s' ↔
    validateG g = true ∧ (∀ e ∈ g.bindings, ∃ pr, parsePricing e.2.text = .ok pr) ∧
    s' = { genesis cfg g.params height time with
             defs := g.defs.foldl (fun m e => Map.set m e.1 e.2) [],
             bindings := g.bindings.foldl (fun m e => Map.set m e.1 e.2) [],
             ownerBind := g.bindings.foldl (fun m e => FSet.ins m (e.2.owner, e.1.1, e.1.2)) [],
             owner := g.bindings.foldl (fun m e => Map.set m e.1.2 e.2.owner) [],
             ownerProv := g.bindings.foldl (fun m e => FSet.ins m (e.2.owner, e.1.2)) [],
             pricing := (parsedPrices g.bindings).foldl (fun m e => Map.set m e.1 e.2) [],
             withdraw := g.withdraw.foldl (fun m e => Map.set m e.1 e.2) [],
             ctxs := g.ctxs.foldl (fun m e => Map.set m e.1 e.2) [],
             usedIds := g.ctxs.map (·.1) } := by
  unfold importG
  cases hv : validateG g with
  | false => exact ⟨nofun, fun h => nomatch h.1⟩
  | true =>
    rw [if_neg (by decide)]
    dsimp only
    constructor
    · intro h
      split at h
      · cases h
      · rename_i s2 hs2
        obtain ⟨hp, rfl⟩ := importBindings_eq.mp hs2
        cases h
        exact ⟨rfl, hp, rfl⟩
    · rintro ⟨_, hp, rfl⟩
      rw [importBindings_eq.mpr ⟨hp, rfl⟩]
      rfl

section rebuilt
variable {cfg : Config} {params : Params} {depBal : Nat} {defs : Map SvcName Definition}
  {bindings : Map (SvcName × Addr) Binding} {ownerBind : FSet (Addr × SvcName × Addr)} {owner : Map Addr Addr}
  {ownerProv : FSet (Addr × Addr)} {pricing : Map (SvcName × Addr) Pricing}
  (h : BInv cfg params depBal defs bindings ownerBind owner ownerProv pricing)
include h

/-- the invariant of the bindings world reads the definitions, the indexes and the price terms by lookup and membership
    only -/
theorem BInv.congr {defs' : Map SvcName Definition} {ownerBind' : FSet (Addr × SvcName × Addr)} {owner' : Map Addr Addr}
    {ownerProv' : FSet (Addr × Addr)} {pricing' : Map (SvcName × Addr) Pricing}
    (hd : ∀ n, get defs' n = get defs n) (hob : ∀ x, x ∈ ownerBind' ↔ x ∈ ownerBind)
    (how : ∀ p, get owner' p = get owner p) (hop : ∀ x, x ∈ ownerProv' ↔ x ∈ ownerProv)
    (hpr : ∀ k, get pricing' k = get pricing k) :
    BInv cfg params depBal defs' bindings ownerBind' owner' ownerProv' pricing' where
  backed := h.backed
  ownerOk := h.ownerOk
  ownerOf svc p b hb := by rw [how]; exact h.ownerOf svc p b hb
  provIdx o p := by rw [hop, how]; exact h.provIdx o p
  bindIdx o svc p := by rw [hob]; exact h.bindIdx o svc p
  priced k b hb := by rw [hpr]; exact h.priced k b hb
  pricingOnly k := by rw [hpr]; exact h.pricingOnly k
  defined svc p := by rw [hd]; exact h.defined svc p
  ownerHas p o := by rw [how]; exact h.ownerHas p o
  minDep k b hb hav := by rw [hpr]; exact h.minDep k b hb hav

/-- Under the invariant of the bindings world the provider → owner map is determined by the bindings (`ownerOf`,
    `ownerHas`), so the scan of the bindings rebuilds it. -/
theorem BInv.owner_rebuilt (p : Addr) :
    get ((entries bindings).foldl (fun m e => Map.set m e.1.2 e.2.owner) []) p = get owner p := by
  refine get_foldl_set_eq (fun e : (SvcName × Addr) × Binding => e.1.2) (fun e => e.2.owner) _ owner
    (fun e he => h.ownerOf e.1.1 e.1.2 e.2 ((mem_entries ..).mp he)) (fun p hs => ?_) p
  obtain ⟨o, ho⟩ := Option.isSome_iff_exists.mp hs
  obtain ⟨svc, hs⟩ := h.ownerHas p o ho
  obtain ⟨b, hb⟩ := Option.isSome_iff_exists.mp hs
  exact ⟨((svc, p), b), (mem_entries ..).mpr hb, rfl⟩

/-- … and so are the price terms: the parse of the text of each binding (`priced`), and no others (`pricingOnly`). -/
theorem BInv.pricing_rebuilt (k : SvcName × Addr) :
    get ((parsedPrices (entries bindings)).foldl (fun m e => Map.set m e.1 e.2) []) k = get pricing k := by
  refine get_foldl_set_eq (fun e : (SvcName × Addr) × Pricing => e.1) (fun e => e.2) _ pricing (fun e he => ?_)
    (fun k hs => ?_) k
  · obtain ⟨b, hb, hparse⟩ := mem_parsedPrices.mp he
    obtain ⟨p, hp, hparse', -⟩ := h.priced e.1 b ((mem_entries ..).mp hb)
    cases hparse.symm.trans hparse'
    exact hp
  · obtain ⟨b, hb⟩ := Option.isSome_iff_exists.mp (h.pricingOnly k hs)
    obtain ⟨p, -, hparse, -⟩ := h.priced k b hb
    exact ⟨(k, p), mem_parsedPrices.mpr ⟨b, (mem_entries ..).mpr hb, hparse⟩, rfl⟩

/-- The import rebuilds the ownership indexes and the price terms from a scan of the bindings alone; each of them is
    determined by the bindings, so what it rebuilds is what there was, and the invariant holds again. -/
theorem BInv.import (hn : NodupKeys bindings) {defs' : Map SvcName Definition} (hd : ∀ n, get defs' n = get defs n) :
    BInv cfg params depBal defs' (entries bindings)
      ((entries bindings).foldl (fun m e => FSet.ins m (e.2.owner, e.1.1, e.1.2)) [])
      ((entries bindings).foldl (fun m e => Map.set m e.1.2 e.2.owner) [])
      ((entries bindings).foldl (fun m e => FSet.ins m (e.2.owner, e.1.2)) [])
      ((parsedPrices (entries bindings)).foldl (fun m e => Map.set m e.1 e.2) []) := by
  have hm := mem_entries bindings
  have he : BInv cfg params depBal defs (entries bindings) ownerBind owner ownerProv pricing := by
    rw [entries_of_nodupKeys _ hn]; exact h
  refine he.congr hd (fun ⟨o, svc, p⟩ => ?_) h.owner_rebuilt (fun ⟨o, p⟩ => ?_) h.pricing_rebuilt
  · simp only [FSet.mem_foldl_ins, List.not_mem_nil, false_or, h.bindIdx]
    constructor
    · rintro ⟨⟨⟨svc', p'⟩, b⟩, he, heq⟩
      cases heq
      exact ⟨b, (hm _ _).mp he, rfl⟩
    · rintro ⟨b, hb, rfl⟩
      exact ⟨((svc, p), b), (hm _ _).mpr hb, rfl⟩
  · simp only [FSet.mem_foldl_ins, List.not_mem_nil, false_or, h.provIdx]
    constructor
    · rintro ⟨⟨⟨svc, p'⟩, b⟩, he, heq⟩
      cases heq
      exact h.ownerOf svc p' b ((hm _ _).mp he)
    · intro ho
      obtain ⟨svc, hs⟩ := h.ownerHas p o ho
      obtain ⟨b, hb⟩ := Option.isSome_iff_exists.mp hs
      have := (h.ownerOf svc p b hb).symm.trans ho
      exact ⟨((svc, p), b), (hm _ _).mpr hb, by rw [Option.some.inj this]⟩

end rebuilt

end SM
