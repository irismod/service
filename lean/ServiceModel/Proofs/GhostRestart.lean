import ServiceModel.Proofs.Cadence
import ServiceModel.Proofs.CbCount
import ServiceModel.Proofs.OnceRestart
/-!
# The two ghost-observer theorems (cadence C10, callback counting C12) over chains with zero-height restarts

A restart cancels whatever is in flight: the preparation refunds the pending requests and every context comes back
paused with its batch completed and the batch counter it had (`restart_ctxs`).

* **Cadence.** The observer forgets every tracked start at a restart (the flag stays as it is): a context must be
  started again by its consumer before it gets a batch, and that batch is not bound to the old schedule. `cad_reachableR`:
  the flag is never raised on a chain with any number of restarts.
* **Callbacks.** A batch in flight at the restart never gets its callback — it was cancelled. The observer carries a
  second counter `k`: the batches of a module's context cancelled by a restart. `cbokR_reachableR`: callbacks so far +
  batches cancelled by a restart + (1 if a batch is in flight) = batches started.

At the end, the bound of the batch counter by the total (C10), which a restart keeps: `totBoundedR`.
-/
namespace SM
open Map

inductive GReachR (cfg : Config) (p : Params) (h0 t0 : Int) : State → Ghost → Prop
  | init : GReachR cfg p h0 t0 (genesis cfg p h0 t0) Ghost.init
  | step {s : State} {g : Ghost} (op : Op) : GReachR cfg p h0 t0 s g → WF s op →
      GReachR cfg p h0 t0 (step s op).1 (gstep g s op)
  | restart {s s' : State} {g : Ghost} (height time : Int) : GReachR cfg p h0 t0 s g →
      SM.restart s height time = some s' → GReachR cfg p h0 t0 s' ⟨[], g.bad⟩

theorem GReachR.state_reachable {cfg : Config} {p : Params} {h0 t0 : Int} {s : State} {g : Ghost}
    (hr : GReachR cfg p h0 t0 s g) : ReachableR cfg p h0 t0 s := by
  induction hr with
  | init => exact ReachableR.init
  | step op _ hw ih => exact ReachableR.step op ih hw
  | restart height time _ hre ih => exact ReachableR.restart height time ih hre

theorem reachableR_has_ghost {cfg : Config} {p : Params} {h0 t0 : Int} {s : State}
    (hr : ReachableR cfg p h0 t0 s) : ∃ g, GReachR cfg p h0 t0 s g := by
  induction hr with
  | init => exact ⟨_, GReachR.init⟩
  | step op _ hw ih => obtain ⟨g, hg⟩ := ih; exact ⟨_, GReachR.step op hg hw⟩
  | restart height time _ hre ih => obtain ⟨g, hg⟩ := ih; exact ⟨_, GReachR.restart height time hg hre⟩

theorem GReach.toR {cfg : Config} {p : Params} {h0 t0 : Int} {s : State} {g : Ghost}
    (hr : GReach cfg p h0 t0 s g) : GReachR cfg p h0 t0 s g := by
  induction hr with
  | init => exact GReachR.init
  | step op _ hw ih => exact GReachR.step op ih hw

theorem cad_reachableR {cfg : Config} {p : Params} {h0 t0 : Int} (hc : CfgOK cfg p) {s : State} {g : Ghost}
    (hr : GReachR cfg p h0 t0 s g) : CadOK s g := by
  induction hr with
  | init => exact ⟨rfl, fun _ _ hL => nomatch hL⟩
  | @step s g op hr' hw ih => exact gstep_cad s op (reachableR_invAll hc hr'.state_reachable).inv hw g ih
  | @restart s s' g height time hr' hre ih => exact ⟨ih.1, fun _ _ hL => nomatch hL⟩

/-- batches of module contexts that a restart cancels: one for every module context whose batch is in flight -/
def cancelled (s : State) (c : CtxId) : Nat :=
  match get s.ctxs c with
  | some x => if x.mod ≠ "" ∧ x.bstate = .running then 1 else 0
  | none => 0

def CbOKR (s : State) (n k : CtxId → Nat) : Prop :=
  (∀ c, c ∉ s.usedIds → n c = 0 ∧ k c = 0) ∧
  ∀ c x, get s.ctxs c = some x → x.mod ≠ "" → n c + k c + (if x.bstate = .running then 1 else 0) = x.batch

/-- the two counters enter through their sum only -/
theorem cbOKR_iff {s : State} {n k : CtxId → Nat} : CbOKR s n k ↔ CbOK s (fun c => n c + k c) :=
  ⟨fun h => ⟨fun c hc => by have := h.1 c hc; show n c + k c = 0; omega, h.2⟩,
   fun h => ⟨fun c hc => by have : n c + k c = 0 := h.1 c hc; omega, h.2⟩⟩

/-- a restart completes every batch without a callback: the batches in flight are added to the count -/
theorem restart_cbok {s s' : State} (h : InvX s) {height time : Int} (hre : restart s height time = some s')
    (m : CtxId → Nat) (hk : CbOK s m) : CbOK s' (fun c => m c + cancelled s c) := by
  refine ⟨fun c hc => ?_, fun c y hy hm => ?_⟩
  · rw [(restart_fields hre).2] at hc
    -- an id that was never used has no context
    have hx : get s.ctxs c = none := Option.not_isSome_iff_eq_none.mp fun hs => hc (h.used c hs)
    show m c + cancelled s c = 0
    rw [hk.1 c hc, cancelled, hx]
    rfl
  · obtain ⟨x, hx, rfl⟩ := restart_ctx_of hre hy
    have := hk.2 c x hx hm
    show m c + cancelled s c + 0 = x.batch
    rw [cancelled, hx]
    dsimp only
    by_cases hb : x.bstate = .running
    · rw [if_pos ⟨hm, hb⟩]; rw [if_pos hb] at this; omega
    · rw [if_neg (fun hr => hb hr.2)]; rw [if_neg hb] at this; omega

/-- chains with restarts, with the callbacks invoked so far (`n`) and the batches cancelled by a restart (`k`) -/
inductive CReachR (cfg : Config) (p : Params) (h0 t0 : Int) : State → (CtxId → Nat) → (CtxId → Nat) → Prop
  | init : CReachR cfg p h0 t0 (genesis cfg p h0 t0) (fun _ => 0) (fun _ => 0)
  | step {s : State} {n k : CtxId → Nat} (op : Op) : CReachR cfg p h0 t0 s n k → WF s op →
      CReachR cfg p h0 t0 (step s op).1 (fun c => n c + cbCount c (step s op).2.2) k
  | restart {s s' : State} {n k : CtxId → Nat} (height time : Int) : CReachR cfg p h0 t0 s n k →
      SM.restart s height time = some s' → CReachR cfg p h0 t0 s' n (fun c => k c + cancelled s c)

theorem CReachR.state_reachable {cfg : Config} {p : Params} {h0 t0 : Int} {s : State} {n k : CtxId → Nat}
    (hr : CReachR cfg p h0 t0 s n k) : ReachableR cfg p h0 t0 s := by
  induction hr with
  | init => exact ReachableR.init
  | step op _ hw ih => exact ReachableR.step op ih hw
  | restart height time _ hre ih => exact ReachableR.restart height time ih hre

theorem reachableR_has_count {cfg : Config} {p : Params} {h0 t0 : Int} {s : State}
    (hr : ReachableR cfg p h0 t0 s) : ∃ n k, CReachR cfg p h0 t0 s n k := by
  induction hr with
  | init => exact ⟨_, _, CReachR.init⟩
  | step op _ hw ih => obtain ⟨n, k, hn⟩ := ih; exact ⟨_, _, CReachR.step op hn hw⟩
  | restart height time _ hre ih => obtain ⟨n, k, hn⟩ := ih; exact ⟨_, _, CReachR.restart height time hn hre⟩

theorem cbokR_reachableR {cfg : Config} {p : Params} {h0 t0 : Int} (hc : CfgOK cfg p) {s : State} {n k : CtxId → Nat}
    (hr : CReachR cfg p h0 t0 s n k) : CbOKR s n k := by
  induction hr with
  | init => exact ⟨fun _ _ => ⟨rfl, rfl⟩, fun _ _ hx => nomatch hx⟩
  | @step s n k op hr' hw ih =>
    have hinv := (reachableR_invAll hc hr'.state_reachable).inv
    exact cbOKR_iff.mpr ((step_cbok s op hinv hw _ (cbOKR_iff.mp ih)).congr fun c => Nat.add_right_comm ..)
  | @restart s s' n k height time hr' hre ih =>
    have hinv := (reachableR_invAll hc hr'.state_reachable).inv
    exact cbOKR_iff.mpr ((restart_cbok hinv.x hre _ (cbOKR_iff.mp ih)).congr fun c => (Nat.add_assoc ..).symm)

/-- without a restart nothing is ever cancelled -/
theorem CReachR.of_no_restart {cfg : Config} {p : Params} {h0 t0 : Int} {s : State} {n : CtxId → Nat}
    (hr : CReach cfg p h0 t0 s n) : CReachR cfg p h0 t0 s n (fun _ => 0) := by
  induction hr with
  | init => exact CReachR.init
  | step op _ hw ih => exact CReachR.step op ih hw

/-! ### the total of a repeated context over restarts (C10) -/

/-- a restart gives every context back with its counter, total and repetition flag, so the bound is kept; the steps in
    between keep it as they do on a chain without restarts -/
theorem totBoundedR {cfg : Config} {p : Params} {h0 t0 : Int} (hc : CfgOK cfg p) {s : State}
    (hr : ReachableR cfg p h0 t0 s) : ∀ c x, Map.get s.ctxs c = some x → TotBound x := by
  induction hr with
  | init => exact fun _ _ h => nomatch h
  | step op _ hw ih =>
    exact step_ctxs (fun _ hb _ _ hpos => by rw [hb]; exact Int.le_of_lt hpos) (fun _ _ he => he.bnd) op hw ih
  | restart height time _ hre ih =>
    intro c y hy
    obtain ⟨x, hx, rfl⟩ := restart_ctx_of hre hy
    exact ih c x hx

end SM
