import ServiceModel.Proofs.Once
/-!
# C11: every pending request is gone once its expiry block has ended

`expiry_block_clears`: the end of block `H` leaves no request pending whose expiry height is `H`.
`pending_bounded`: along every well-formed continuation of every history, a request that is still pending has not
passed its expiry height — so, since every block raises the height by one, it is answered or expired (and then
settled, C02) after at most `expiry − height + 1` further blocks.
-/
namespace SM
open Map

/-- the expiry handler never makes a request pending -/
theorem expireBatch_subset {s : State} (h : Inv s) (a : CtxId) : ∀ r, r ∈ (expireBatch s a).s.activeI → r ∈ s.activeI :=
  (expireBatch_shrinks h a).2

/-- `r` is not made pending, and while it stays pending the expiry pointer of its context stays -/
def PtrKept (r : ReqId) (s s' : State) : Prop :=
  r ∈ s'.activeI → r ∈ s.activeI ∧ get s'.expH r.ctx = get s.expH r.ctx

theorem PtrKept.refl (r : ReqId) (s : State) : PtrKept r s s := fun h => ⟨h, rfl⟩

theorem PtrKept.trans {r : ReqId} {a b c : State} (h1 : PtrKept r a b) (h2 : PtrKept r b c) : PtrKept r a c :=
  fun h => ⟨(h1 (h2 h).1).1, (h2 h).2.trans (h1 (h2 h).1).2⟩

theorem Msg.ptrKept {s s' : State} {op : Op} {e : List Effect} (h : Msg s op e s') (r : ReqId) : PtrKept r s s' := by
  cases h with
  | respondBad | respondGood => exact fun hr => ⟨((FSet.mem_rem _ _ _).mp hr).1, rfl⟩
  | _ => exact fun hr => ⟨hr, rfl⟩

theorem Expire.ptrKept {s s' : State} {x : Ctx} {r' : ReqId} {e : List Effect} (h : Expire s x r' e s') (r : ReqId) :
    PtrKept r s s' := by
  cases h <;> exact fun hr => ⟨((FSet.mem_rem _ _ _).mp hr).1, rfl⟩

/-- a batch is closed, and its pointer dropped, once none of its requests is pending -/
theorem Close.ptrKept {s s' : State} {c : CtxId} {e : List Effect} (hnone : ∀ r ∈ s.activeI, r.ctx ≠ c)
    (h : Close s c e s') (r : ReqId) : PtrKept r s s' := by
  cases h <;> exact fun hr => ⟨hr, get_del_other _ _ _ fun hc => hnone r hr hc.symm⟩

/-- the requests of the batch a due context starts are not `Old` (`Old.not_new`), and it has none of its requests
    pending (`dueFacts`) -/
theorem New.ptrKept {s s' : State} {c : CtxId} {e : List Effect} (hi : Inv s) (hdue : (s.height, c) ∈ s.newQ)
    (h : New s c e s') {r : ReqId} (ho : Old s r) : PtrKept r s s' := by
  intro hr
  have ha := ho.not_new h.aorig hr
  have hne : ∀ {x}, get s.ctxs c = some x → c ≠ r.ctx := fun hx hc =>
    (hi.x.dueFacts hx ((hi.x.newMirror _ _).mp hdue)).pending r ha hc.symm
  refine ⟨ha, ?_⟩
  cases h with
  | issue hx | skip hx => exact get_set_other _ _ _ _ (hne hx)
  | _ => rfl

theorem endBlock_ptrKept {s : State} (h : Inv s) (dt : Int) {r : ReqId} (ho : Old s r) :
    PtrKept r s (endBlock s dt).s := by
  -- `Old`, which the new-batch handler needs, is carried along the handlers
  refine (endBlock_liftH (R := fun s _ s' => Old s r → Old s' r ∧ PtrKept r s s') (fun s ho => ⟨ho, .refl r s⟩)
    (fun h1 h2 ho => ⟨(h2 (h1 ho).1).1, (h1 ho).2.trans (h2 (h1 ho).1).2⟩)
    (fun s c hs ho => ⟨ho.mono (expireBatch_aorig hs c) (expireBatch_evol s c (expireBatch_nopanic hs c)),
      expireBatch_liftI (R := fun s _ s' => PtrKept r s s') (.refl r) (fun h1 h2 => h1.trans h2)
        (fun _ _ _ _ h => h.ptrKept r) (fun _ _ hn h => h.ptrKept hn r) hs c⟩)
    (fun t c ht hot => ⟨hot.mono (newBatch_aorig t c) (newBatch_evol t c),
      newBatch_of (R := fun _ t' => PtrKept r t t') t c (.refl r t) fun hdue ha => ha.ptrKept ht hdue hot⟩)
    (fun s _ _ ho => ⟨ho, fun hr => ⟨hr, rfl⟩⟩) h dt ho).2

theorem step_ptrKept {s : State} (h : Inv s) (op : Op) {r : ReqId} (ho : Old s r) : PtrKept r s (step s op).1 :=
  step_of op (.refl r s) (fun _ hm => hm.ptrKept r) fun _ _ => endBlock_ptrKept h _ ho

/-- C11: when block `H` ends, no request with expiry height `H` is pending any more -/
theorem expiry_block_clears (s : State) (dt : Int) (h : Inv s) (r : ReqId) (q : Req)
    (hq : get s.reqs r = some q) (he : q.expH = s.height) : r ∉ (endBlock s dt).s.activeI := by
  intro hr
  -- had `r` stayed pending, its context would still have its expiry due at this height
  obtain ⟨-, hp⟩ := endBlock_ptrKept h dt (old_of_req h hq) hr
  obtain ⟨s2, -, -, -, hn, hs⟩ := endBlock_phases h dt
  obtain ⟨_, _, _, hptr⟩ := h.x.reqCtx r q hq
  rw [hs, hptr, he] at hp
  exact hn r.ctx hp

/-- every block raises the height by one (the end blocker does not panic in reachable states) -/
theorem endblock_advances {s : State} (h : Inv s) (dt : Int) : (step s (.endblock dt)).1.height = s.height + 1 := by
  obtain ⟨s2, -, hh, -, -, hs⟩ := endBlock_phases h dt
  rw [step_endblock_ok h dt, hs]
  exact congrArg (· + 1) hh

theorem leads_ptr {cfg : Config} {p : Params} {h0 t0 : Int} (hc : CfgOK cfg p) {s s' : State}
    (hr : Reachable cfg p h0 t0 s) (hl : Leads s s') {r : ReqId} {e : Int} (ho : Old s r)
    (hk : r ∈ s.activeI → get s.expH r.ctx = some e) : r ∈ s'.activeI → get s'.expH r.ctx = some e :=
  (hl.keeps hc (P := fun s => Old s r ∧ (r ∈ s.activeI → get s.expH r.ctx = some e))
    (fun hi hw ⟨ho, hk⟩ => ⟨old_step hi _ hw r ho, fun ha =>
      (step_ptrKept hi _ ho ha).2.trans (hk (step_ptrKept hi _ ho ha).1)⟩) hr ⟨ho, hk⟩).2

/-- C11: along every well-formed continuation, a request that is still pending has not passed its expiry height -/
theorem pending_bounded {cfg : Config} {p : Params} {h0 t0 : Int} (hc : CfgOK cfg p) {s s' : State}
    (hr : Reachable cfg p h0 t0 s) (hl : Leads s s') (r : ReqId) (q : Req) (hact : r ∈ s.activeI)
    (hq : get s.reqs r = some q) (hact' : r ∈ s'.activeI) : s'.height ≤ q.expH := by
  have hinv := reachable_inv hc hr
  obtain ⟨_, _, _, hptr⟩ := hinv.x.reqCtx r q hq
  exact ((reachable_inv hc (reachable_of_leads hr hl)).x.expFuture r.ctx q.expH
    (leads_ptr hc hr hl (old_of_req hinv hq) (fun _ => hptr) hact')).1

end SM
