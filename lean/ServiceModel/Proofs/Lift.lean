import ServiceModel.Proofs.RefineBind
import ServiceModel.Proofs.RefineCtx
import ServiceModel.Proofs.RefineRespond
/-!
# From the handlers to `step`

`exec_handled`, `step_cases`: what a handler run and a step are, in terms of the atoms. `step_of`, `step_lift`: what holds of
the atoms holds of `step`. `BlockFrame`: all the end of a block does to the records that messages write.
-/
namespace SM
open Map

section rel
variable {R : State → State → Prop} (refl : ∀ s, R s s) (trans : ∀ {a b c}, R a b → R b c → R a c)
include refl trans

/-- For a relation between states no hypothesis about panics is needed: a fold that panics stops in the state of an
    earlier piece of work. -/
theorem foldH_rel {α : Type} {h : State → α → HRes} (hR : ∀ s a, R s (h s a).s) (l : List α) (s : State) :
    R s (foldH h s l).s := by
  induction l generalizing s with
  | nil => exact refl s
  | cons a t ih =>
    rw [foldH_cons]
    split
    · exact hR s a
    · exact trans (hR s a) (ih _)

theorem expireBatch_rel (hE : ∀ {s x r e s'}, Expire s x r e s' → R s s') (hC : ∀ {s c e s'}, Close s c e s' → R s s')
    (s : State) (c : CtxId) : R s (expireBatch s c).s := by
  have hf : ∀ x, R s (foldH (expireReq x) s (pendingOf s c x)).s := fun x => foldH_rel refl trans (fun s r => by
    rcases expireReq_atom x s r with ⟨-, h⟩ | ⟨_, h⟩
    · rw [h]; exact refl s
    · exact hE h) _ s
  rcases expireBatch_cases s c with ⟨_, h⟩ | ⟨_, hx, h⟩ | ⟨x, _, _, _, rfl, ⟨_, _, h⟩ | ⟨_, _, _, hc, h⟩⟩ <;> rw [h]
  · exact refl s
  · exact hC (.lost hx)
  · exact hf x
  · exact trans (hf x) (hC hc)

end rel

theorem xfer_msg {s : State} {a b : Addr} {n : Nat} {out : Out}
    (h : (match bankSend s.bank a b n with
      | none => fail s .insufficientFunds
      | some bank' => ({ s with bank := bank' }, .ok, [])) = out) : Handled s (.xfer a b n) out := by
  split at h <;> subst h
  · exact .rej
  · exact .acc (.xfer ‹_›)

theorem exec_handled {s : State} {op : Op} (hne : op.isEndblock = false) : Handled s op (exec s op) := by
  cases op with
  | fund a n => exact .acc (.fund a n)
  | xfer a b n => exact xfer_msg rfl
  | define n a ok => exact define_msg ok rfl
  | bind svc p o dep text qos =>
    cases text with
    | none => exact .inl ⟨.invalid, nofun, nofun, rfl⟩
    | some t => exact bind_msg rfl
  | update svc p o dep text qos => exact update_msg rfl
  | setwd o a => exact .acc (.setwd o a)
  | disable svc p o => exact disable_msg rfl
  | enable svc p o dep => exact enable_msg rfl
  | refund svc p o => exact refund_msg rfl
  | call id svc provs cons cap timeout super rep freq total inputOk => exact call_msg rfl
  | modcreate id mod svc provs cons cap timeout super rep freq total inputOk running thr => exact modcreate_msg rfl
  | respond r p code out => exact respond_msg rfl
  | pause c cons => exact pause_msg rfl
  | start c cons => exact start_msg rfl
  | kill c cons => exact kill_msg rfl
  | updatectx c cons provs cap timeout freq total => exact updatectx_msg rfl
  | modpause c cons => exact modpause_msg rfl
  | modstart c cons => exact modstart_msg rfl
  | modkill c cons => exact modkill_msg rfl
  | modupdate c cons provs thr cap timeout freq total => exact modupdate_msg rfl
  | withdraw o p => exact withdraw_msg rfl
  | endblock dt => cases hne

theorem exec_msg {s : State} {op : Op} (hne : op.isEndblock = false) (hok : (exec s op).2.1 = .ok) :
    Msg s op (exec s op).2.2 (exec s op).1 := by
  obtain ⟨_, _, hm, he⟩ := (exec_handled (s := s) hne).ok hok
  rw [he]; exact hm

theorem step_endblock (s : State) (dt : Int) : step s (.endblock dt) = exec s (.endblock dt) := rfl

/-- What holds of every accepted message and of the step that ends a block holds of the handler run on its own (a
    handler that refuses returns the state it was given; `step` keeps its writes only if it succeeds). -/
theorem exec_of {R : State → State → Prop} {s : State} (op : Op) (refl : R s s)
    (hM : ∀ {e s'}, Msg s op e s' → R s s')
    (hB : ∀ {dt}, op = .endblock dt → R s (step s op).1) : R s (exec s op).1 := by
  cases hne : op.isEndblock with
  | false =>
    obtain he | ⟨_, _, hm, he⟩ := (exec_handled (s := s) hne).state <;> rw [he]
    · exact refl
    · exact hM hm
  | true =>
    cases op <;> cases hne
    exact hB rfl

theorem step_invalid {s : State} {op : Op} (hv : validateBasic op = false) : step s op = (s, .invalid, []) := by
  unfold step; rw [hv]; rfl

/-- baseapp's cache: the handler's writes are kept only if it succeeds -/
theorem step_msg_eq {s : State} {op : Op} (hv : validateBasic op = true) (hne : op.isEndblock = false) :
    step s op = match (exec s op).2.1 with
      | .ok => ((exec s op).1, .ok, (exec s op).2.2)
      | r => (s, r, []) := by
  unfold step; rw [hv, hne]
  generalize exec s op = r
  obtain ⟨s', res, effs⟩ := r
  cases res <;> rfl

theorem step_cases (s : State) (op : Op) :
    (∃ r, r ≠ .ok ∧ step s op = (s, r, [])) ∨
    (op.isEndblock = false ∧ validateBasic op = true ∧ ∃ e s', Msg s op e s' ∧ step s op = (s', .ok, e)) ∨
    (∃ dt, op = .endblock dt ∧
      ((endBlock s dt).panic = none ∧ step s op = ((endBlock s dt).s, .ok, (endBlock s dt).effs) ∨
       ∃ m, (endBlock s dt).panic = some m ∧ step s op = (s, .panic m, (endBlock s dt).effs))) := by
  cases hv : validateBasic op with
  | false => exact .inl ⟨.invalid, nofun, step_invalid hv⟩
  | true =>
    cases hne : op.isEndblock with
    | false =>
      rw [step_msg_eq hv hne]
      cases hr : (exec s op).2.1 with
      | ok => exact .inr (.inl ⟨rfl, rfl, _, _, exec_msg hne hr, rfl⟩)
      | err e => exact .inl ⟨.err e, nofun, rfl⟩
      | invalid => exact .inl ⟨.invalid, nofun, rfl⟩
      | panic m => exact .inl ⟨.panic m, nofun, rfl⟩
    | true =>
      cases op <;> try cases hne
      rename_i dt
      refine .inr (.inr ⟨dt, rfl, ?_⟩)
      have he : step s (.endblock dt) = match (endBlock s dt).panic with
        | some m => (s, .panic m, (endBlock s dt).effs)
        | none => ((endBlock s dt).s, .ok, (endBlock s dt).effs) := rfl
      rw [he]
      cases (endBlock s dt).panic with
      | none => exact .inl ⟨rfl, rfl⟩
      | some m => exact .inr ⟨m, rfl, rfl⟩

/-- What holds of every accepted message and of the end of a block that does not panic holds of the step (a rejected
    step, and an end of block that panics, leave the state as it was). -/
theorem step_of {R : State → State → Prop} {s : State} (op : Op) (refl : R s s)
    (hM : ∀ {e s'}, validateBasic op = true → Msg s op e s' → R s s')
    (hB : ∀ {dt}, op = .endblock dt → (endBlock s dt).panic = none → R s (endBlock s dt).s) : R s (step s op).1 := by
  rcases step_cases s op with ⟨_, _, h⟩ | ⟨_, hv, _, _, hm, h⟩ | ⟨dt, rfl, ⟨hnp, h⟩ | ⟨_, _, h⟩⟩ <;> rw [h]
  · exact refl
  · exact hM hv hm
  · exact hB rfl hnp
  · exact refl

/-- a reflexive transitive relation between states that holds of every piece of work of a step holds of the step -/
theorem step_lift {R : State → State → Prop} (refl : ∀ s, R s s) (trans : ∀ {a b c}, R a b → R b c → R a c) (op : Op)
    (hM : ∀ {s e s'}, validateBasic op = true → Msg s op e s' → R s s')
    (hE : ∀ {s x r e s'}, get s.ctxs r.ctx = some x → (s.height, r.ctx) ∈ s.expQ → Expire s x r e s' → R s s')
    (hC : ∀ {s c e s'}, (s.height, c) ∈ s.expQ → Close s c e s' → R s s')
    (hN : ∀ {s c e s'}, (s.height, c) ∈ s.newQ → New s c e s' → R s s')
    (hT : ∀ s dt, R s { s with height := s.height + 1, time := s.time + dt }) (s : State) : R s (step s op).1 :=
  step_of op (refl s) hM fun _ hnp => endBlock_lift (R := fun a _ b => R a b) refl trans hE hC hN hT hnp

structure Slashed (b b' : Binding) : Prop where
  owner : b'.owner = b.owner
  qos : b'.qos = b.qos
  deposit : b'.deposit ≤ b.deposit

theorem Slashed.refl (b : Binding) : Slashed b b := ⟨rfl, rfl, Nat.le_refl _⟩

theorem Slashed.trans {a b c : Binding} (h1 : Slashed a b) (h2 : Slashed b c) : Slashed a c :=
  ⟨h2.owner.trans h1.owner, h2.qos.trans h1.qos, Nat.le_trans h2.deposit h1.deposit⟩

/-- all the end of a block does to the records that messages write: it slashes bindings -/
structure BlockFrame (s s' : State) : Prop where
  cfg : s'.cfg = s.cfg
  defs : s'.defs = s.defs
  owner : s'.owner = s.owner
  withdraw : s'.withdraw = s.withdraw
  earned : s'.earned = s.earned
  keys : keys s'.bindings = keys s.bindings
  binds : Into Slashed s.bindings s'.bindings

theorem BlockFrame.of_eq {s s' : State} (h1 : s'.cfg = s.cfg) (h2 : s'.defs = s.defs) (h3 : s'.owner = s.owner)
    (h4 : s'.withdraw = s.withdraw) (h5 : s'.earned = s.earned) (h6 : s'.bindings = s.bindings) : BlockFrame s s' :=
  ⟨h1, h2, h3, h4, h5, by rw [h6], h6 ▸ Into.refl Slashed.refl _⟩

theorem BlockFrame.refl (s : State) : BlockFrame s s := .of_eq rfl rfl rfl rfl rfl rfl

theorem BlockFrame.trans {a b c : State} (h1 : BlockFrame a b) (h2 : BlockFrame b c) : BlockFrame a c :=
  ⟨h2.cfg.trans h1.cfg, h2.defs.trans h1.defs, h2.owner.trans h1.owner, h2.withdraw.trans h1.withdraw,
   h2.earned.trans h1.earned, h2.keys.trans h1.keys, h1.binds.trans h2.binds Slashed.trans⟩

theorem Slash.block {s s1 : State} {r : ReqId} {svc : SvcName} {p : Addr} {e : List Effect}
    (h : Slash s r svc p e s1) : BlockFrame s s1 := by
  cases h with
  | unbound | refused => exact .refl _
  | @burnt b _ md hb =>
    refine ⟨rfl, rfl, rfl, rfl, rfl, keys_set_of_mem _ _ _ ((get_isSome_iff_mem_keys _ _).mp (by rw [hb]; rfl)),
      Into.set Slashed.refl hb ?_⟩
    obtain ⟨ho, -, hq, hd, -⟩ := slashedB_spec b (b.deposit * s.params.slash / decUnit) md s.time
    exact ⟨ho, hq, hd ▸ Nat.sub_le ..⟩

theorem Expire.block {s s' : State} {x : Ctx} {r : ReqId} {e : List Effect} (h : Expire s x r e s') : BlockFrame s s' := by
  cases h with
  | lost | super => exact .of_eq rfl rfl rfl rfl rfl rfl
  -- the post-state has the bindings the slash leaves
  | paid _ _ hs | unpaid _ _ hs => exact ⟨rfl, rfl, rfl, rfl, rfl, hs.block.keys, hs.block.binds⟩

theorem Close.block {s s' : State} {c : CtxId} {e : List Effect} (h : Close s c e s') : BlockFrame s s' := by
  cases h <;> exact .of_eq rfl rfl rfl rfl rfl rfl

theorem New.block {s s' : State} {c : CtxId} {e : List Effect} (h : New s c e s') : BlockFrame s s' := by
  cases h <;> exact .of_eq rfl rfl rfl rfl rfl rfl

theorem endBlock_block {s : State} {dt : Int} (hnp : (endBlock s dt).panic = none) : BlockFrame s (endBlock s dt).s :=
  endBlock_lift (R := fun a _ b => BlockFrame a b) .refl .trans (fun _ _ h => h.block) (fun _ h => h.block)
    (fun _ h => h.block) (fun _ _ => .of_eq rfl rfl rfl rfl rfl rfl) hnp

/-- for what only reads the records that messages write -/
theorem step_lift_block {R : State → State → Prop} {s : State} (op : Op) (refl : R s s)
    (hM : ∀ {e s'}, validateBasic op = true → Msg s op e s' → R s s')
    (hB : ∀ {dt s'}, op = .endblock dt → BlockFrame s s' → R s s') : R s (step s op).1 :=
  step_of op refl hM fun e hnp => hB e (endBlock_block hnp)

end SM
