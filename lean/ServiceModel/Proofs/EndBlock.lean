import ServiceModel.Proofs.NoPanic
/-!
# The end of a block as a whole: both folds, then the next block begins
-/
namespace SM
open Map

theorem mem_queuedAt (q : FSet (Int × CtxId)) (h : Int) (c : CtxId) : c ∈ queuedAt q h ↔ (h, c) ∈ q := by
  unfold queuedAt
  rw [mem_sortCtxIds]
  exact mem_filter_fst_map_snd q h c

/-- One phase of the end of a block. The handler is guarded by the queue entry of its context: it removes the pointer
    of a due context and no other. Under `I` a context whose pointer stands at the height is due, so the handler, run
    on every such context, leaves no pointer there. -/
theorem phase_clears {hd : State → CtxId → HRes} {ptr : State → Map CtxId Int} {q : State → FSet (Int × CtxId)}
    {I : State → Prop} {H : Int}
    (hdue : ∀ s c, I s → get (ptr s) c = some s.height → (s.height, c) ∈ q s)
    (hstep : ∀ s c, I s → s.height = H → I (hd s c).s ∧ (hd s c).s.height = s.height ∧
      ∀ c2, get (ptr (hd s c).s) c2 = if c2 = c ∧ (s.height, c) ∈ q s then none else get (ptr s) c2)
    (l : List CtxId) {s : State} (h : I s) (hH : s.height = H) (hpend : ∀ c, get (ptr s) c = some H → c ∈ l)
    (hnp : (foldH hd s l).panic = none) :
    I (foldH hd s l).s ∧ (foldH hd s l).s.height = H ∧ ∀ c, get (ptr (foldH hd s l).s) c ≠ some H := by
  induction l generalizing s with
  | nil => exact ⟨h, hH, fun c hc => nomatch hpend c hc⟩
  | cons c rest ih =>
    obtain ⟨-, hp2, hs⟩ := foldH_cons_nopanic _ s c rest hnp
    rw [hs]
    obtain ⟨i1, i2, i3⟩ := hstep s c h hH
    refine ih i1 (i2.trans hH) (fun c2 hc2 => ?_) hp2
    rw [i3] at hc2
    split at hc2
    · cases hc2
    · -- a pointer that still stands at `H` stood there before, and is not that of `c`, whose guard would have held
      rename_i hne
      exact (List.mem_cons.mp (hpend c2 hc2)).resolve_left fun e => hne ⟨e, hdue s c h (by rw [hH, ← e]; exact hc2)⟩

theorem Close.ptrs {s s' : State} {c : CtxId} {e : List Effect} (h : Close s c e s') :
    s'.height = s.height ∧ s'.expH = del s.expH c := by
  cases h <;> exact ⟨rfl, rfl⟩

theorem expireBatch_ptrs (s : State) (c : CtxId) (h : Inv s) :
    (expireBatch s c).s.height = s.height ∧
    (∀ c2, Map.get (expireBatch s c).s.expH c2 =
      if c2 = c ∧ (s.height, c) ∈ s.expQ then none else Map.get s.expH c2) := by
  rcases expireBatch_cases s c with ⟨hq, he⟩ | ⟨hdue, -, he⟩ | ⟨x, _, hdue, hx, rfl, ⟨_, -, hp⟩ | ⟨-, e, s', hc, he⟩⟩
  · rw [he]; exact ⟨rfl, fun c2 => (if_neg fun hh => hq hh.2).symm⟩
  · rw [he]; exact ⟨rfl, fun c2 => get_del_if _ _ _ hdue⟩
  · have := expireBatch_nopanic h c
    rw [hp] at this; cases this
  · rw [he]
    have hf := expirePending_frame h hx
    obtain ⟨ph, pe⟩ := hc.ptrs
    refine ⟨ph.trans (congrArg State.height hf :), fun c2 => ?_⟩
    rw [pe, (congrArg State.expH hf :)]; exact get_del_if _ _ _ hdue

theorem expirePhase (H : Int) (l : List CtxId) (s : State) (h : Inv s) (hH : s.height = H)
    (hpend : ∀ c, Map.get s.expH c = some H → c ∈ l)
    (hnp : (foldH expireBatch s l).panic = none) :
    Inv (foldH expireBatch s l).s ∧ (foldH expireBatch s l).s.height = H ∧
      (∀ c, Map.get (foldH expireBatch s l).s.expH c ≠ some H) :=
  phase_clears (ptr := (·.expH)) (q := (·.expQ)) (I := Inv) (fun _ c hs => (hs.x.expMirror _ c).mpr)
    (fun s c hs _ => ⟨expireBatch_inv s c hs, expireBatch_ptrs s c hs⟩) l h hH hpend hnp

theorem New.ptrs {s s' : State} {c : CtxId} {e : List Effect} (h : New s c e s') :
    s'.height = s.height ∧ s'.newH = del s.newH c ∧
    (s'.expH = s.expH ∨ ∃ x, get s.ctxs c = some x ∧ s'.expH = set s.expH c (s.height + x.timeout)) := by
  cases h with
  | issue hx | skip hx => exact ⟨rfl, rfl, .inr ⟨_, hx, rfl⟩⟩
  | _ => exact ⟨rfl, rfl, .inl rfl⟩

theorem newBatch_ptrs (s : State) (c : CtxId) (h : Inv s) :
    (newBatch s c).s.height = s.height ∧
    (∀ c2, Map.get (newBatch s c).s.newH c2 =
      if c2 = c ∧ (s.height, c) ∈ s.newQ then none else Map.get s.newH c2) ∧
    (∀ c2, Map.get s.expH c2 ≠ some s.height → Map.get (newBatch s c).s.expH c2 ≠ some s.height) := by
  rcases newBatch_cases s c with ⟨hq, he⟩ | ⟨hdue, -, ha⟩
  · rw [he]; exact ⟨rfl, fun c2 => (if_neg fun hh => hq hh.2).symm, fun _ hh => hh⟩
  · obtain ⟨ph, pn, pe⟩ := ha.ptrs
    refine ⟨ph, fun c2 => by rw [pn]; exact get_del_if _ _ _ hdue, fun c2 hh => ?_⟩
    rcases pe with pe | ⟨x, hx, pe⟩ <;> rw [pe]
    · exact hh
    · rw [get_set]; split
      · -- the timeout is positive: the expiry the handler schedules lies after the current height
        have := (h.x.ctxWF c x hx).1
        intro e; injection e with e; omega
      · exact hh

theorem newPhase (H : Int) (l : List CtxId) (s : State) (h : Inv s) (hH : s.height = H)
    (hpend : ∀ c, Map.get s.newH c = some H → c ∈ l)
    (hnoexp : ∀ c, Map.get s.expH c ≠ some H)
    (hnp : (foldH newBatch s l).panic = none) :
    Inv (foldH newBatch s l).s ∧ (foldH newBatch s l).s.height = H ∧
      (∀ c, Map.get (foldH newBatch s l).s.newH c ≠ some H) ∧
      (∀ c, Map.get (foldH newBatch s l).s.expH c ≠ some H) := by
  have ⟨⟨i1, i2⟩, i3, i4⟩ := phase_clears (ptr := (·.newH)) (q := (·.newQ))
    (I := fun s => Inv s ∧ ∀ c, get s.expH c ≠ some H) (fun _ c hs => (hs.1.x.newMirror _ c).mpr)
    (fun s c hs hh => by
      obtain ⟨ph, pn, pe⟩ := newBatch_ptrs s c hs.1
      exact ⟨⟨newBatch_inv s c hs.1, fun c2 => hh ▸ pe c2 (hh ▸ hs.2 c2)⟩, ph, pn⟩) l ⟨h, hnoexp⟩ hH hpend hnp
  exact ⟨i1, i3, i4, i2⟩

theorem inv_nextBlock (s : State) (h : Inv s) (dt : Int)
    (hn : ∀ c, Map.get s.newH c ≠ some s.height) (he : ∀ c, Map.get s.expH c ≠ some s.height) :
    Inv { s with height := s.height + 1, time := s.time + dt } := by
  have next : ∀ {m : Map CtxId Int}, (∀ c, get m c ≠ some s.height) →
      (∀ c hh, get m c = some hh → s.height ≤ hh ∧ (get s.ctxs c).isSome) →
      ∀ c hh, get m c = some hh → s.height + 1 ≤ hh ∧ (get s.ctxs c).isSome := fun hne hf c hh hc => by
    have : hh ≠ s.height := fun e => hne c (e ▸ hc)
    have := (hf c hh hc).1
    exact ⟨by omega, (hf c hh hc).2⟩
  exact { h with x := { h.x with newFuture := next hn h.x.newFuture, expFuture := next he h.x.expFuture } }

/-- Both phases run through, they leave a state `s2` at the same height that satisfies the invariants and has no queue
    entry at that height any more, and then the clock ticks. -/
theorem endBlock_phases {s : State} (h : Inv s) (dt : Int) :
    ∃ s2 : State, Inv s2 ∧ s2.height = s.height ∧ (∀ c, get s2.newH c ≠ some s.height) ∧
      (∀ c, get s2.expH c ≠ some s.height) ∧
      (endBlock s dt).s = { s2 with height := s2.height + 1, time := s2.time + dt } := by
  obtain ⟨_, _, rfl, rfl, hp1, hp2, he⟩ := endBlock_nopanic_eq (endBlock_nopanic h dt)
  obtain ⟨i1, i2, i3⟩ := expirePhase s.height _ s h rfl
    (fun c hc => (mem_queuedAt _ _ _).mpr ((h.x.expMirror s.height c).mpr hc)) hp1
  obtain ⟨j1, j2, j3, j4⟩ := newPhase s.height _ _ i1 i2
    (fun c hc => (mem_queuedAt _ _ _).mpr (by rw [i2]; exact (i1.x.newMirror s.height c).mpr hc)) i3 hp2
  exact ⟨_, j1, j2, j3, j4, by rw [he]⟩

theorem endBlock_inv (s : State) (dt : Int) (h : Inv s) (hnp : (endBlock s dt).panic = none) :
    Inv (endBlock s dt).s := by
  obtain ⟨s2, i, hh, hn, he, hs⟩ := endBlock_phases h dt
  rw [hs]
  exact inv_nextBlock _ i dt (hh ▸ hn) (hh ▸ he)

end SM
