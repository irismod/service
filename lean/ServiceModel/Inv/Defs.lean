import ServiceModel.Model.Step
/-!
# Reachability, environment assumptions, and the invariants the property theorems rest on
-/
namespace SM

/-- the two custody accounts of the module -/
def State.custody (s : State) (a : Addr) : Prop := a = s.cfg.escrow ∨ a = s.cfg.deposit
/-- any of the three module accounts the model knows -/
def State.modAcct (s : State) (a : Addr) : Prop := a = s.cfg.escrow ∨ a = s.cfg.deposit ∨ a = s.cfg.collector

/-- configuration assumptions (E5): distinct module accounts, legal parameters -/
structure CfgOK (cfg : Config) (p : Params) : Prop where
  ed : cfg.escrow ≠ cfg.deposit
  ec : cfg.escrow ≠ cfg.collector
  dc : cfg.deposit ≠ cfg.collector
  mult_pos : 1 ≤ p.mult
  maxT_pos : 1 ≤ p.maxTimeout
  tax_lt : p.tax < decUnit
  slash_le : p.slash ≤ decUnit
  complaint_pos : 0 < p.complaint
  arbitration_pos : 0 < p.arbitration

/-- Environment assumptions on one operation in a state (E1/E2/E7/E8 of DESIGN.md):
    signers are ordinary accounts (module accounts have no keys; the owner who signs a
    withdraw-address message has a 20-byte address, 40 hex digits here), environment transfers do
    not touch custody accounts, consumers named by other modules are not custody accounts,
    a context id (tx hash, msg index) is never reused, and another module calling the keeper API
    passes arguments that satisfy the module's own stateless validation (a non-empty consumer on
    creation, `ValidateRequestContextUpdating` on update) — E8, used only for C19's validation clause. -/
def WF (s : State) : Op → Prop
  | .fund a _ => ¬ s.custody a
  | .xfer a b _ => ¬ s.modAcct a ∧ ¬ s.custody b
  | .define _ a _ => ¬ s.modAcct a
  | .bind _ _ o _ _ _ => ¬ s.modAcct o
  | .update _ _ o _ _ _ => ¬ s.modAcct o
  | .setwd o _ => ¬ s.modAcct o ∧ o.length = 40
  | .disable _ _ o => ¬ s.modAcct o
  | .enable _ _ o _ => ¬ s.modAcct o
  | .refund _ _ o => ¬ s.modAcct o
  | .call id svc _ cons _ _ _ _ _ _ _ => ¬ s.modAcct cons ∧ id ∉ s.usedIds ∧ s.cfg.modsvc ≠ some svc
  | .modcreate id mod _ _ cons _ _ _ _ _ _ _ _ _ => ¬ s.modAcct cons ∧ id ∉ s.usedIds ∧ mod ≠ "" ∧ cons ≠ ""
  | .respond _ p _ _ => ¬ s.modAcct p
  | .pause _ cons => ¬ s.modAcct cons
  | .start _ cons => ¬ s.modAcct cons
  | .kill _ cons => ¬ s.modAcct cons
  | .updatectx _ cons _ _ _ _ _ => ¬ s.modAcct cons
  | .modpause _ _ => True
  | .modstart _ _ => True
  | .modkill _ _ => True
  | .modupdate _ _ provs _ cap timeout freq total => validateCtxUpdate provs cap timeout freq total = none
  | .withdraw o _ => ¬ s.modAcct o
  | .endblock dt => 0 < dt

/-- states reachable from genesis by well-formed operations -/
inductive Reachable (cfg : Config) (p : Params) (h0 t0 : Int) : State → Prop
  | init : Reachable cfg p h0 t0 (genesis cfg p h0 t0)
  | step {s : State} (op : Op) : Reachable cfg p h0 t0 s → WF s op → Reachable cfg p h0 t0 (step s op).1

/-! ### sums -/
def depositSum (s : State) : Nat := Map.total (fun b : Binding => b.deposit) s.bindings

def feeOf (s : State) (r : ReqId) : Nat :=
  match Map.get s.reqs r with
  | some q => q.fee
  | none => 0

def activeFees (s : State) : Nat := (s.activeI.map (feeOf s)).sum

def earnedSum (s : State) : Nat := Map.total (fun n : Nat => n) s.earned

/-! ### invariants

Each invariant is a structure over exactly the state components it mentions, wrapped by
an `abbrev` over `State`: an operation that does not touch those components preserves the
invariant by definitional unfolding (`exact h`).
-/

/-- configuration facts (E5): distinct module accounts, legal parameters -/
structure Static (cfg : Config) (p : Params) : Prop where
  ed : cfg.escrow ≠ cfg.deposit
  ec : cfg.escrow ≠ cfg.collector
  dc : cfg.deposit ≠ cfg.collector
  mult_pos : 1 ≤ p.mult
  maxT_pos : 1 ≤ p.maxTimeout
  tax_lt : p.tax < decUnit
  slash_le : p.slash ≤ decUnit
  complaint_pos : 0 < p.complaint
  arbitration_pos : 0 < p.arbitration

abbrev InvStatic (s : State) : Prop := Static s.cfg s.params

def isModAcct (cfg : Config) (a : Addr) : Prop := a = cfg.escrow ∨ a = cfg.deposit ∨ a = cfg.collector

/-- the bindings world (C03 backing, C14, C15): deposits, owners, indexes, price terms -/
structure BInv (cfg : Config) (params : Params) (depBal : Nat) (defs : Map SvcName Definition)
    (bindings : Map (SvcName × Addr) Binding) (ownerBind : FSet (Addr × SvcName × Addr))
    (owner : Map Addr Addr) (ownerProv : FSet (Addr × Addr)) (pricing : Map (SvcName × Addr) Pricing) : Prop where
  /-- C03: the deposit account holds exactly the recorded deposits -/
  backed : depBal = Map.total (fun b : Binding => b.deposit) bindings
  ownerOk : ∀ k b, Map.get bindings k = some b → ¬ isModAcct cfg b.owner
  /-- C15: one owner per provider, shared by all its bindings -/
  ownerOf : ∀ svc p b, Map.get bindings (svc, p) = some b → Map.get owner p = some b.owner
  provIdx : ∀ o p, (o, p) ∈ ownerProv ↔ Map.get owner p = some o
  bindIdx : ∀ o svc p, (o, svc, p) ∈ ownerBind ↔ ∃ b, Map.get bindings (svc, p) = some b ∧ b.owner = o
  /-- C15: stored price terms are the parse of the published text -/
  priced : ∀ k b, Map.get bindings k = some b →
      ∃ p, Map.get pricing k = some p ∧ parsePricing b.text = .ok p ∧ validPricing p = true
  pricingOnly : ∀ k, (Map.get pricing k).isSome → (Map.get bindings k).isSome
  defined : ∀ svc p, (Map.get bindings (svc, p)).isSome → (Map.get defs svc).isSome
  ownerHas : ∀ p o, Map.get owner p = some o → ∃ svc, (Map.get bindings (svc, p)).isSome
  /-- C14: an available binding holds the minimum deposit for its price -/
  minDep : ∀ k b, Map.get bindings k = some b → b.avail = true →
      ∃ p md, Map.get pricing k = some p ∧ minDeposit params p = some md ∧ md ≤ b.deposit

abbrev InvB (s : State) : Prop :=
  BInv s.cfg s.params (balOf s.bank.bal s.cfg.deposit) s.defs s.bindings s.ownerBind s.owner s.ownerProv s.pricing

/-- the invocation world (C09 well-formedness, C10 single flight, C11, C16): contexts, the two
    queues with their pointers, request records, responses, pending-request markers -/
structure XInv (cfg : Config) (height : Int) (ctxs : Map CtxId Ctx) (expQ newQ : FSet (Int × CtxId))
    (expH newH : Map CtxId Int) (usedIds : List CtxId) (reqs : Map ReqId Req)
    (activeB : FSet (SvcName × Addr × Int × ReqId)) (activeI : FSet ReqId) (resps : Map ReqId Resp) : Prop where
  ctxWF : ∀ c x, Map.get ctxs c = some x → 1 ≤ x.timeout ∧ (x.rep = true → x.timeout ≤ (x.freq : Int))
  ctxCons : ∀ c x, Map.get ctxs c = some x → ¬ isModAcct cfg x.cons
  newMirror : ∀ h c, (h, c) ∈ newQ ↔ Map.get newH c = some h
  expMirror : ∀ h c, (h, c) ∈ expQ ↔ Map.get expH c = some h
  single    : ∀ c, Map.get newH c = none ∨ Map.get expH c = none
  newFuture : ∀ c h, Map.get newH c = some h → height ≤ h ∧ (Map.get ctxs c).isSome
  expFuture : ∀ c h, Map.get expH c = some h → height ≤ h ∧ (Map.get ctxs c).isSome
  runningQ  : ∀ c x, Map.get ctxs c = some x → x.state = .running →
                (Map.get newH c).isSome ∨ (Map.get expH c).isSome
  used      : ∀ c, (Map.get ctxs c).isSome → c ∈ usedIds
  reqCtx : ∀ r q, Map.get reqs r = some q →
      ∃ x, Map.get ctxs r.ctx = some x ∧ r.batch = x.batch ∧ Map.get expH r.ctx = some q.expH
  activeReq : ∀ r, r ∈ activeI → (Map.get reqs r).isSome
  activeMirror : ∀ svc p e r, (svc, p, e, r) ∈ activeB ↔
      (r ∈ activeI ∧ ∃ q x, Map.get reqs r = some q ∧ Map.get ctxs r.ctx = some x ∧
        svc = x.svc ∧ p = q.prov ∧ e = q.expH)
  respReq : ∀ r, (Map.get resps r).isSome → (Map.get reqs r).isSome ∧ r ∉ activeI
  activeNodup : activeI.Nodup
  /-- C12: a batch is marked running only while its expiry is pending -/
  bRunExp : ∀ c x, Map.get ctxs c = some x → x.bstate = .running → (Map.get expH c).isSome
  /-- pending requests belong to a batch that is still running -/
  activeRunning : ∀ r, r ∈ activeI → ∃ x, Map.get ctxs r.ctx = some x ∧ x.bstate = .running
  /-- pending + answered never exceeds issued, for the batch in flight (so the response that
      brings the count to the number issued is the last pending one) -/
  counts : ∀ c x, Map.get ctxs c = some x → x.bstate = .running →
      (activeI.filter (fun r => r.ctx = c)).length + x.respN ≤ x.reqN

abbrev InvX (s : State) : Prop :=
  XInv s.cfg s.height s.ctxs s.expQ s.newQ s.expH s.newH s.usedIds s.reqs s.activeB s.activeI s.resps

/-- sum of the fees of the pending requests -/
def feeSum (reqs : Map ReqId Req) (active : List ReqId) : Nat :=
  (active.map (fun r => match Map.get reqs r with | some q => q.fee | none => 0)).sum

/-- earnings of the providers owned by `o` -/
def ownedSum (owner : Map Addr Addr) (earned : Map Addr Nat) (o : Addr) : Nat :=
  Map.total (fun n : Nat => n) (earned.filter (fun p => Map.get owner p.1 = some o))

/-- the money world (C01, C13): escrow backing and the double bookkeeping of earnings -/
structure MInv (escBal : Nat) (reqs : Map ReqId Req) (activeI : FSet ReqId)
    (earned ownerEarned : Map Addr Nat) (owner : Map Addr Addr) : Prop where
  /-- C01 -/
  escrow : escBal = feeSum reqs activeI + Map.total (fun n : Nat => n) earned
  earnedK : Map.NodupKeys earned
  ownerEarnedK : Map.NodupKeys ownerEarned
  /-- C13 -/
  ownerSum : ∀ o, balOf ownerEarned o = ownedSum owner earned o
  earnedOwned : ∀ p, (Map.get earned p).isSome → (Map.get owner p).isSome

abbrev InvM (s : State) : Prop :=
  MInv (balOf s.bank.bal s.cfg.escrow) s.reqs s.activeI s.earned s.ownerEarned s.owner

/-- every request record names a bound provider (so a slash always finds its binding and an
    earning always finds its owner), and a request of a super-mode context carries no fee -/
def BoundInv (ctxs : Map CtxId Ctx) (reqs : Map ReqId Req) (bindings : Map (SvcName × Addr) Binding) : Prop :=
  ∀ r q, Map.get reqs r = some q → ∃ x, Map.get ctxs r.ctx = some x ∧ (Map.get bindings (x.svc, q.prov)).isSome ∧
    (x.super = true → q.fee = 0)

abbrev InvBound (s : State) : Prop := BoundInv s.ctxs s.reqs s.bindings

/-- all of them -/
structure Inv (s : State) : Prop where
  static : InvStatic s
  b : InvB s
  x : InvX s
  m : InvM s
  bound : InvBound s

/-- the quantities of the property statements, in terms of a state -/
def ownedEarned (s : State) (o : Addr) : Nat := ownedSum s.owner s.earned o

theorem activeFees_eq (s : State) : activeFees s = feeSum s.reqs s.activeI := by
  unfold activeFees feeSum feeOf; rfl

/-- the backing equation of C01 in the terms of the property statements -/
theorem InvM.escrow_backed {s : State} (h : InvM s) : s.bal s.cfg.escrow = activeFees s + earnedSum s :=
  (activeFees_eq s).symm ▸ h.escrow

end SM
